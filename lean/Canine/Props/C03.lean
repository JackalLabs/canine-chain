/-
C03 — Reward blocks pay each proven prover its proportional share exactly once.

`manageFile` handles every listed prover of a file exactly once: one that met its obligation stays
listed and is credited the file size once, one that missed it is removed, its record erased and its
provider's burn counter raised by one.  The amount paid is `⌊share · R⌋` with `share = w / T` rounded at
the 18th decimal: within one base unit of `⌊w·R/T⌋`, never more in total than was released, nothing to
accounts that were not counted.  `C03_reward_block_end_to_end` composes the two over `manageRewards`.
Regression witness for a loop ranging over the slice that the removal shrinks in place:
`C03_aliased_loop_skips_and_double_counts`.
-/
import Canine.Proofs.RewardBlock
import Canine.Generated.PureFns
namespace Canine.Storage
open RewardBlock

/-- A file with no provers that is past its first window is dropped, and nothing else happens. -/
theorem C03_empty_old_file_dropped (s : State) (h : Int) (t : Tracker) (file : File)
    (he : file.proofs = []) (ho : isYoung h file.start file.proofInterval = false) :
    manageFile s h t file = (removeFile s file.key, t) :=
  manageFile_drop s t he ho

/-- C03 for one file: every listed prover is handled exactly once, the passing ones kept in order and
credited, the failing ones removed, erased and burned.  `SameRest` includes the payment plans
(`payinfo`): they are unchanged because this is not the "empty and old" case above. -/
theorem C03_each_prover_handled_once (s : State) (h : Int) (t : Tracker) (file : File)
    (hnd : file.proofs.Nodup)
    (hf : AMap.get s.files file.key = some file) (hf2 : AMap.get s.files2 file.key = some file)
    (hne : ¬ (file.proofs = [] ∧ isYoung h file.start file.proofInterval = false)) :
    let s' := (manageFile s h t file).1
    let t' := (manageFile s h t file).2
    let kept : File := { file with proofs := file.proofs.filter (passes s h file) }
    AMap.get s'.files file.key = some kept ∧ AMap.get s'.files2 file.key = some kept ∧
    (∀ k, k ≠ file.key → AMap.get s'.files k = AMap.get s.files k ∧ AMap.get s'.files2 k = AMap.get s.files2 k) ∧
    (∀ a, (AMap.get t' a).getD 0 = (AMap.get t a).getD 0 +
        file.fileSize * (file.proofs.countP (fun pk => passes s h file pk && decide (creditName s pk = a)) : Nat)) ∧
    (∀ x, AMap.get s'.providers x = (AMap.get s.providers x).map (fun p =>
        { p with burned := p.burned.map (· + ((file.proofs.countP (fun pk =>
            !passes s h file pk && (AMap.get s.proofs pk).isSome && decide (pk.1 = x)) : Nat) : Int)) })) ∧
    (∀ q, AMap.get s'.proofs q = if q ∈ file.proofs ∧ passes s h file q = false then none else AMap.get s.proofs q) ∧
    SameRest s' s := by
  intro s' t' kept
  have heo : emptyOld h file = false := Bool.eq_false_iff.mpr (fun e => hne (emptyOld_iff.mp e))
  have F := manageFile_spec s h t file hnd hf hf2
  have ho : outcome s h file = some kept := by unfold outcome; rw [heo]; rfl
  refine ⟨(F.files _).trans (by rw [if_pos rfl, ho]), (F.files2 _).trans (by rw [if_pos rfl, ho]),
    fun k hk => ⟨(F.files k).trans (if_neg hk), (F.files2 k).trans (if_neg hk)⟩, fun a => ?_,
    F.providers, F.proofs, F.payinfo heo, F.rest⟩
  show (AMap.get (manageFile s h t file).2 a).getD 0 = _
  rw [F.tracker, creditAll_getD, wsum_passEntriesOf]; rfl

theorem countP_eq_one_of_unique {α : Type} [DecidableEq α] (p : α → Bool) (l : List α) (a : α)
    (hnd : l.Nodup) (hm : a ∈ l) (hpa : p a = true) (hu : ∀ q ∈ l, p q = true → q = a) : l.countP p = 1 := by
  rw [List.countP_congr (q := (· == a)) (fun q hq => ⟨fun h => by simpa using hu q hq h,
    fun h => by rw [eq_of_beq h]; exact hpa⟩)]
  exact hnd.count.trans (if_pos hm)

/-- A listed prover that met its obligation is still listed afterwards, and (when no other passing
key of the file is credited to the same address) its address was credited the file size exactly once. -/
theorem C03_pass_counted_once (s : State) (h : Int) (t : Tracker) (file : File) (pk : PKey)
    (hnd : file.proofs.Nodup)
    (hf : AMap.get s.files file.key = some file) (hf2 : AMap.get s.files2 file.key = some file)
    (hm : pk ∈ file.proofs) (hp : passes s h file pk = true)
    (hu : ∀ q ∈ file.proofs, passes s h file q = true → creditName s q = creditName s pk → q = pk) :
    (∃ f', AMap.get (manageFile s h t file).1.files file.key = some f' ∧ pk ∈ f'.proofs) ∧
    AMap.get (manageFile s h t file).1.proofs pk = AMap.get s.proofs pk ∧
    (AMap.get (manageFile s h t file).2 (creditName s pk)).getD 0
      = (AMap.get t (creditName s pk)).getD 0 + file.fileSize := by
  have hne : ¬ (file.proofs = [] ∧ isYoung h file.start file.proofInterval = false) :=
    fun ⟨e, _⟩ => List.ne_nil_of_mem hm e
  obtain ⟨c1, _, _, c4, _, c6, _⟩ := C03_each_prover_handled_once s h t file hnd hf hf2 hne
  refine ⟨⟨_, c1, by simp [hm, hp]⟩, by rw [c6]; simp [hp], ?_⟩
  rw [c4]
  have : file.proofs.countP (fun q => passes s h file q && decide (creditName s q = creditName s pk)) = 1 :=
    countP_eq_one_of_unique _ file.proofs pk hnd hm (by simp [hp])
      (fun q hq hpq => by simp at hpq; exact hu q hq hpq.1 hpq.2)
  rw [this]; simp

/-- A listed prover (with a proof record) that missed its obligation is no longer listed, its record
is gone, it is credited nothing, and (when no other failing key of the file sits under the same
provider address) its provider's burn counter rose by exactly one, nothing else in the provider
record changing. -/
theorem C03_fail_removed_and_burned_once (s : State) (h : Int) (t : Tracker) (file : File) (pk : PKey)
    (pr : Proof) (p : Provider) (b : Int)
    (hnd : file.proofs.Nodup)
    (hf : AMap.get s.files file.key = some file) (hf2 : AMap.get s.files2 file.key = some file)
    (hm : pk ∈ file.proofs) (hp : passes s h file pk = false)
    (hrec : AMap.get s.proofs pk = some pr)
    (hprov : AMap.get s.providers pk.1 = some p) (hb : p.burned = some b)
    (hu : ∀ q ∈ file.proofs, passes s h file q = false → (AMap.get s.proofs q).isSome → q.1 = pk.1 → q = pk) :
    (∃ f', AMap.get (manageFile s h t file).1.files file.key = some f' ∧ pk ∉ f'.proofs) ∧
    AMap.get (manageFile s h t file).1.proofs pk = none ∧
    AMap.get (manageFile s h t file).1.providers pk.1 = some { p with burned := some (b + 1) } := by
  have hne : ¬ (file.proofs = [] ∧ isYoung h file.start file.proofInterval = false) :=
    fun ⟨e, _⟩ => List.ne_nil_of_mem hm e
  obtain ⟨c1, _, _, _, c5, c6, _⟩ := C03_each_prover_handled_once s h t file hnd hf hf2 hne
  refine ⟨⟨_, c1, by simp [hp]⟩, by rw [c6]; simp [hm, hp], ?_⟩
  rw [c5, hprov]
  have : file.proofs.countP (fun q => !passes s h file q && (AMap.get s.proofs q).isSome && decide (q.1 = pk.1)) = 1 :=
    countP_eq_one_of_unique _ file.proofs pk hnd hm (by simp [hp, hrec])
      (fun q hq hpq => by simp at hpq; exact hu q hq hpq.1.1 hpq.1.2 hpq.2)
  rw [this]; simp [hb]


/-- The per-file loop without the copy that x/storage/keeper/rewards.go ranges over: Go's
`for _, proof := range file.Proofs` evaluates the slice header once and
then reads positions `0 .. n-1` of its *backing array*, while `RemoveProverWithKey` shrinks the same
array in place with `append(front, back...)`: after removing an element of the current list (a
prefix of the array) the elements to its right move one slot left and the last slot of the old
prefix keeps its old value.  The last component of the accumulator is that array; the current list
is the `proofs` of the file before it. -/
def manageFileAliased (s : State) (h : Int) (t : Tracker) (file : File) : State × Tracker :=
  let s1 :=
    if file.proofs.isEmpty && !(isYoung h file.start file.proofInterval) then removeFile s file.key else s
  let r := (List.range file.proofs.length).foldl
    (fun (acc : State × Tracker × File × List PKey) i =>
      match acc.2.2.2[i]? with
      | none => acc
      | some pk =>
        let r := manageProof acc.1 h acc.2.1 acc.2.2.1 pk
        (r.1, r.2.1, r.2.2, r.2.2.proofs ++ acc.2.2.2.drop r.2.2.proofs.length))
    (s1, t, file, file.proofs)
  (r.1, r.2.1)

def wFile : File :=
  { merkle := "m", owner := "o", start := 0, expires := 0, fileSize := 10, proofInterval := 5, proofType := 0,
    proofs := [("fail", ("m", "o", 0)), ("ok1", ("m", "o", 0)), ("ok2", ("m", "o", 0))], maxProofs := 3, note := "" }

def wProof (who : String) (last : Int) : Proof :=
  { prover := who, merkle := "m", owner := "o", start := 0, lastProven := last, chunkToProve := 0 }

def wProvider (who : String) : Provider :=
  { address := who, ip := "", totalspace := "0", burned := some 0, creator := who, keybase := "", claimers := [] }

/-- three provers of an old file at height 100 (window 5): `fail` last proved at 10, the others at 97 -/
def wState : State :=
  { files := [(wFile.key, wFile)], files2 := [(wFile.key, wFile)],
    proofs := [(("fail", wFile.key), wProof "fail" 10), (("ok1", wFile.key), wProof "ok1" 97), (("ok2", wFile.key), wProof "ok2" 97)],
    providers := [("fail", wProvider "fail"), ("ok1", wProvider "ok1"), ("ok2", wProvider "ok2")],
    payinfo := [], collateral := [], gauges := [], attests := [], reports := [], bank := [],
    params := { proofWindow := 5, checkWindow := 5, chunkSize := 1024, pricePerTbPerMonth := 8, collateralPrice := 0,
                attestFormSize := 5, attestMinToPass := 3, referralCommission := 25, polRatio := 40 },
    moduleAcc := "storage", collateralAcc := "coll", polAcc := "pol", feeAcc := "fee", blocked := [] }


/-- Regression witness: on `[fail, ok1, ok2]` the aliased loop never visits `ok1` (credited
nothing) and visits `ok2` twice (credited twice the file size); `manageFile` credits both once. -/
theorem C03_aliased_loop_skips_and_double_counts :
    wFile.proofs.map (passes wState 100 wFile) = [false, true, true] ∧
    (manageFileAliased wState 100 [] wFile).2 = [("ok2", 20)] ∧
    (manageFile wState 100 [] wFile).2 = [("ok1", 10), ("ok2", 10)] ∧
    -- both loops remove the failing prover from the file
    (AMap.get (manageFileAliased wState 100 [] wFile).1.files wFile.key).map (·.proofs) = some [("ok1", ("m", "o", 0)), ("ok2", ("m", "o", 0))] ∧
    (AMap.get (manageFile wState 100 [] wFile).1.files wFile.key).map (·.proofs) = some [("ok1", ("m", "o", 0)), ("ok2", ("m", "o", 0))] := by
  decide +kernel



/-- C03, the proportional share: for a prover credited `w` out
of a total `T` and a released amount `R ≤ 10^18` base units of one denomination, the share
`w/T` exists, and the amount paid `⌊share · R⌋` differs from `⌊w·R/T⌋` by at most one unit in
either direction.  (`w ≤ T` is not needed.  Side condition `R ≤ 10^18`: the share is rounded at the
18th decimal, i.e. by at most `0.5·10^-18`, which times `R` stays below one unit.)  Both bounds
are attained, see the examples below. -/
theorem C03_payout_close_to_share (w T R : Int) (hw : 0 ≤ w) (hT : 0 < T) (hR0 : 0 ≤ R)
    (hR : R ≤ 1000000000000000000) :
    ∃ share, Dec.quo? (Dec.ofInt w) (Dec.ofInt T) = some share ∧
      Dec.trunc (Dec.mul share (Dec.ofInt R)) ≤ w * R / T + 1 ∧
      w * R / T - 1 ≤ Dec.trunc (Dec.mul share (Dec.ofInt R)) ∧
      0 ≤ Dec.trunc (Dec.mul share (Dec.ofInt R)) := by
  have hq := quo_ofInt_eq T w hw hT
  have h := payout_close T R w hw hT hR0 (by unfold precision; exact hR)
  refine ⟨_, hq, ?_⟩
  rw [trunc_share_eq_payout hq R]
  exact ⟨h.1, h.2, payout_nonneg T R w hw hT hR0⟩

/-- the upper bound is attained (share 1.5·10^-18 rounds half-to-even up to 2·10^-18) … -/
example : payout 2000000000000000000 1000000000000000000 3 = 3 * 1000000000000000000 / 2000000000000000000 + 1 := by decide +kernel
/-- … and so is the lower one (1/3 rounds down) -/
example : payout 3 3 1 = 1 * 3 / 3 - 1 := by decide +kernel

/-- C03: the payouts never exceed what was released.  Side condition `ws.length · R < 2·10^18`
(each share may be rounded *up* by half a unit of 10^-18; `n` such roundings times `R` must stay
below one coin unit). -/
theorem C03_payout_sum_le_released (T R : Int) (ws : List Int) (hT : 0 < T) (hR : 0 ≤ R)
    (hws : ∀ w ∈ ws, 0 ≤ w) (hsum : ws.sum ≤ T)
    (hside : (ws.length : Int) * R < 2 * 1000000000000000000) :
    (ws.map (fun w => Dec.trunc (Dec.mul ((Dec.quo? (Dec.ofInt w) (Dec.ofInt T)).getD Dec.zero) (Dec.ofInt R)))).sum ≤ R :=
  payout_sum_le T R ws hT hR hws hsum (by unfold precision; exact hside)

/-- the side condition in the form `n·R ≤ 10^18` is a special case -/
theorem C03_payout_sum_le_released' (T R : Int) (ws : List Int) (hT : 0 < T) (hR : 0 ≤ R)
    (hws : ∀ w ∈ ws, 0 ≤ w) (hsum : ws.sum ≤ T) (hside : (ws.length : Int) * R ≤ 1000000000000000000) :
    (ws.map (payout T R)).sum ≤ R :=
  C03_payout_sum_le_released T R ws hT hR hws hsum (by omega)

/-- Some side condition is necessary: six equal provers and `R = 3·10^18` — each share
`0.166666666666666667` is rounded up and each prover is paid `5·10^17 + 1`, six units more than
was released in total (the bank send of the last ones would fail or eat into other funds). -/
theorem C03_payout_sum_can_exceed_released :
    ([1, 1, 1, 1, 1, 1].map (payout 6 3000000000000000000)).sum = 3000000000000000000 + 6 := by decide +kernel

/-- C03: accounts that were not counted receive nothing, for one prover's payment; in particular
the module account never gains. -/
theorem C03_uncounted_receive_nothing (s s' : State) (total : Int) (coins : Coins) (prover : String) (worth : Int)
    (h : payProver s total coins prover worth = .ok s') :
    (∀ a d, a ≠ prover → Bank.bal s'.bank a d ≤ Bank.bal s.bank a d) ∧
    (∀ d, Bank.bal s'.bank s.moduleAcc d ≤ Bank.bal s.bank s.moduleAcc d) := by
  obtain ⟨b, hb, rfl⟩ := payProver_spec h
  exact ⟨fun a d ha => hb.bal_le_of_not_recipient (fun hq => ha hq.1) d, fun d => hb.bal_le_of_sole_sender d⟩

/-- … and over the whole payout loop of `manageRewards`: an address that is not a key of the
tracker gains nothing, and neither does the module account (even if it is a key). -/
theorem C03_uncounted_receive_nothing_fold (s s' : State) (total : Int) (coins : Coins) (tracker : Tracker)
    (h : (sortedProvers tracker).foldlM (fun st pw => payProver st total coins pw.1 pw.2) s = .ok s') :
    (∀ a d, a ∉ AMap.keys tracker → Bank.bal s'.bank a d ≤ Bank.bal s.bank a d) ∧
    (∀ d, Bank.bal s'.bank s.moduleAcc d ≤ Bank.bal s.bank s.moduleAcc d) := by
  obtain ⟨b, hb, rfl⟩ := payLoop_spec h
  refine ⟨fun a d ha => hb.bal_le_of_not_recipient (fun hq => ha ?_) d, fun d => hb.bal_le_of_sole_sender d⟩
  obtain ⟨pw, hpw, rfl⟩ := List.mem_map.mp hq.1
  exact List.mem_map_of_mem (List.mem_mergeSort.mp hpw)



/-- the hypotheses of `C03_each_prover_handled_once` hold on the three-prover witness state … -/
example : wFile.proofs.Nodup ∧ AMap.get wState.files wFile.key = some wFile ∧
    AMap.get wState.files2 wFile.key = some wFile ∧
    ¬ (wFile.proofs = [] ∧ isYoung 100 wFile.start wFile.proofInterval = false) := by decide +kernel

/-- … those of the two single-prover corollaries too (`ok1` passes, `fail` fails with a record and a provider) … -/
example : ("ok1", wFile.key) ∈ wFile.proofs ∧ passes wState 100 wFile ("ok1", wFile.key) = true ∧
    (∀ q ∈ wFile.proofs, passes wState 100 wFile q = true →
      creditName wState q = creditName wState ("ok1", wFile.key) → q = ("ok1", wFile.key)) := by decide +kernel
example : ("fail", wFile.key) ∈ wFile.proofs ∧ passes wState 100 wFile ("fail", wFile.key) = false ∧
    AMap.get wState.proofs ("fail", wFile.key) = some (wProof "fail" 10) ∧
    AMap.get wState.providers "fail" = some (wProvider "fail") ∧ (wProvider "fail").burned = some 0 ∧
    (∀ q ∈ wFile.proofs, passes wState 100 wFile q = false → (AMap.get wState.proofs q).isSome →
      q.1 = "fail" → q = ("fail", wFile.key)) := by decide +kernel

/-- … and the outcome is the one the theorem describes: `fail` removed, its record erased and its
provider burned once, the other two credited the file size once. -/
example :
    (AMap.get (manageFile wState 100 [] wFile).1.files wFile.key).map (·.proofs)
      = some [("ok1", wFile.key), ("ok2", wFile.key)] ∧
    (manageFile wState 100 [] wFile).2 = [("ok1", 10), ("ok2", 10)] ∧
    AMap.get (manageFile wState 100 [] wFile).1.proofs ("fail", wFile.key) = none ∧
    (AMap.get (manageFile wState 100 [] wFile).1.providers "fail").map (·.burned) = some (some 1) ∧
    (AMap.get (manageFile wState 100 [] wFile).1.providers "ok1").map (·.burned) = some (some 0) := by decide +kernel

/-- the payout loop on the tracker of the witness (released: 7 ujkl; total weight 30 as computed at
block start, the removed prover's third stays in the module account) -/
def wPayState : State := { (manageFile wState 100 [] wFile).1 with bank := [(("storage", "ujkl"), 7)] }

theorem wSorted : sortedProvers (manageFile wState 100 [] wFile).2 = [("ok1", 10), ("ok2", 10)] := by
  rw [show (manageFile wState 100 [] wFile).2 = [("ok1", 10), ("ok2", 10)] by decide +kernel]
  exact List.mergeSort_of_pairwise (by decide +kernel)

example :
    ((sortedProvers (manageFile wState 100 [] wFile).2).foldlM
        (fun st pw => payProver st 30 [("ujkl", 7)] pw.1 pw.2) wPayState).toOption.map
      (fun s => (Bank.bal s.bank "ok1" "ujkl", Bank.bal s.bank "ok2" "ujkl", Bank.bal s.bank "fail" "ujkl",
                 Bank.bal s.bank "storage" "ujkl")) = some (2, 2, 0, 3) := by
  rw [wSorted]; decide +kernel



/-! `manageRewards s h now` = the file pass (`manageFile` folded over the files as they were at block
start, building the tracker), `pullGauges` (releases `coins`), then `payProver` for every entry of the
sorted tracker, with `total = Σ fileSize·|proofs|` taken at block start.  Helper lemmas:
`Canine/Proofs/RewardBlock.lean`. -/

/-- the store invariant the file pass relies on: the per-file hypotheses of
`C03_each_prover_handled_once` for every stored file.  The fields restate the `wf`/`key`/`listed`
clauses of `Consistent` (Proofs/Consistency.lean) and the `wfFiles`/`same`/`ok` fields of `IndexInv`
(Proofs/Index.lean, `FileOK` gives `nodup`); it is not derived from them here. -/
structure BlockStoreInv (s : State) : Prop where
  wf : AMap.WF s.files
  ownKey : ∀ kv ∈ s.files, kv.2.key = kv.1
  index2 : ∀ kv ∈ s.files, AMap.get s.files2 kv.1 = some kv.2
  nodup : ∀ kv ∈ s.files, kv.2.proofs.Nodup
  listed : ∀ kv ∈ s.files, ∀ pk ∈ kv.2.proofs, pk.2 = kv.1

theorem BlockStoreInv.filesOK {s : State} (inv : BlockStoreInv s) : FilesOK s.files s :=
  ⟨inv.wf, inv.ownKey, fun _ hkv => AMap.get_of_mem_wf inv.wf hkv, inv.index2, inv.nodup, inv.listed⟩

/-- verbatim the fold `manageRewards` runs over the files -/
def filePassOf (s : State) (h : Int) : State × Tracker :=
  s.files.foldl (fun (acc : State × Tracker) kv => manageFile acc.1 h acc.2 kv.2) (s, [])

/-- `total` as `manageRewards` computes it at block start -/
def totalOf (s : State) : Int := (s.files.map (fun kv => kv.2.fileSize * (kv.2.proofs.length : Int))).sum

theorem failsIn_iff (s : State) (h : Int) (fs : List (FKey × File)) (q : PKey) :
    failsIn s h fs q = true ↔ ∃ kv ∈ fs, q ∈ kv.2.proofs ∧ passes s h kv.2 q = false := by
  unfold failsIn
  simp only [List.any_eq_true, Bool.and_eq_true, decide_eq_true_eq, Bool.not_eq_true']

/-- C03 for the file pass of the whole block.  `blockEntries` lists, in store order, one entry
`(credited name, fileSize)` per (file, listed proof key) pair that passes — each pair once, nothing
else.  The payment plans are outside `SameRestB`: they are unchanged unless an empty old file was
dropped (last conjunct). -/
theorem C03_block_tracker_spec (s : State) (h : Int) (inv : BlockStoreInv s) :
    let s1 := (filePassOf s h).1
    let tracker := (filePassOf s h).2
    tracker = creditAll [] (blockEntries s h s.files) ∧
    AMap.WF tracker ∧
    (∀ a, (AMap.get tracker a).getD 0 = blockCredit s h s.files a) ∧
    (∀ a, a ∈ AMap.keys tracker ↔
      ∃ kv ∈ s.files, ∃ pk ∈ kv.2.proofs, passes s h kv.2 pk = true ∧ creditName s pk = a) ∧
    (∀ kv ∈ s.files, AMap.get s1.files kv.1 = outcome s h kv.2 ∧ AMap.get s1.files2 kv.1 = outcome s h kv.2) ∧
    (∀ k, k ∉ AMap.keys s.files → AMap.get s1.files k = none ∧ AMap.get s1.files2 k = AMap.get s.files2 k) ∧
    (∀ q, AMap.get s1.proofs q = if failsIn s h s.files q then none else AMap.get s.proofs q) ∧
    (∀ x, AMap.get s1.providers x = (AMap.get s.providers x).map (bump (blockBurns s h s.files x))) ∧
    SameRestB s1 s ∧ ((∀ kv ∈ s.files, emptyOld h kv.2 = false) → s1.payinfo = s.payinfo) := by
  intro s1 tracker
  have B := filePass_spec h s.files s [] inv.filesOK
  have e1 : tracker = creditAll [] (blockEntries s h s.files) := B.tracker
  have hwf : AMap.WF tracker := by rw [e1]; exact creditAll_wf _ _ AMap.wf_nil
  refine ⟨e1, hwf, ?_, ?_, fun kv hkv => ⟨B.files kv hkv, B.files2 kv hkv⟩, ?_,
    B.proofs, B.providers, B.rest, B.payinfo⟩
  · intro a; rw [e1, creditAll_getD, wsum_blockEntries]; simp
  · intro a
    rw [e1, creditAll_keys]
    simp only [AMap.keys, List.map_nil, List.not_mem_nil, false_or, List.mem_map]
    constructor
    · rintro ⟨e, he, rfl⟩
      obtain ⟨kv, hkv, pk, hpk, hp, rfl⟩ := mem_blockEntries.mp he
      exact ⟨kv, hkv, pk, hpk, hp, rfl⟩
    · rintro ⟨kv, hkv, pk, hpk, hp, rfl⟩
      exact ⟨_, mem_blockEntries.mpr ⟨kv, hkv, pk, hpk, hp, rfl⟩, rfl⟩
  · intro k hk
    exact ⟨(B.filesOther k hk).trans (AMap.get_none_of_not_mem_keys hk), B.files2Other k hk⟩

/-- Where `Σ weights ≤ total` comes from: `total` is `Σ fileSize·|proofs|` over the files at block
start and every credited pair is a listed pair, so (file sizes being non-negative — `postFile` demands
`1 ≤ fileSize`) the weights of the tracker are non-negative and add up to at most `total`. -/
theorem C03_block_weights_le_total (s : State) (h : Int) (inv : BlockStoreInv s)
    (hsz : ∀ kv ∈ s.files, 0 ≤ kv.2.fileSize) :
    let tracker := (filePassOf s h).2
    AMap.sumBy id tracker = ((blockEntries s h s.files).map (·.2)).sum ∧
    AMap.sumBy id tracker ≤ totalOf s ∧
    ((sortedProvers tracker).map (·.2)).sum ≤ totalOf s ∧
    (∀ pw ∈ tracker, 0 ≤ pw.2) ∧ (∀ pw ∈ sortedProvers tracker, 0 ≤ pw.2) := by
  intro tracker
  have e1 : tracker = creditAll [] (blockEntries s h s.files) := (C03_block_tracker_spec s h inv).1
  have hs : AMap.sumBy id tracker = ((blockEntries s h s.files).map (·.2)).sum := by
    rw [e1, creditAll_sumBy _ _ AMap.wf_nil]; simp [AMap.sumBy]
  have hle : AMap.sumBy id tracker ≤ totalOf s := by
    rw [hs]; exact sum_blockEntries_le s h s.files hsz
  have hnn : ∀ pw ∈ tracker, 0 ≤ pw.2 := by
    rintro ⟨p, w⟩ hpw
    rw [e1] at hpw
    rw [creditAll_entry _ p w hpw]
    exact wsum_nonneg p _ (blockEntries_nonneg s h s.files hsz)
  exact ⟨hs, hle, by rw [sortedProvers_sum]; exact hle, hnn,
    fun pw hpw => hnn pw ((sortedProvers_perm tracker).mem_iff.mp hpw)⟩

/-- C03 for the payout phase of the whole block (no hypothesis on the state).  If the block
succeeds, with `(s1, tracker)` the result of the file pass and `(s2, coins)` that of `pullGauges s1 now`,
there is a list `paid` of the sends that went through such that
* `paid` is a sublist of the candidate sends `blockPays total coins (sortedProvers tracker)` — for every
  tracker entry `(p, w)` in sorted order, the empty name skipped, and every released coin `(d, R)` in
  order, the send of `⌊share(w,total)·R⌋` units of `d` to `p` (a send that fails for lack of funds or
  to a blocked recipient, and a zero amount, is not in `paid`, and the loop goes on);
* every send in `paid` has a positive amount and a recipient that is not blocked;
* nothing but the ledger changes, and for *every* address `a` and denomination `d`
  `bal s' a d = bal s2 a d + (sent to a in paid) − (all of paid, if a is the module account)`. -/
theorem C03_block_payout_spec (s s' s2 : State) (h now : Int) (coins : Coins)
    (hok : manageRewards s h now = .ok s')
    (hg : pullGauges (filePassOf s h).1 now = .ok (s2, coins)) :
    ∃ paid : List Pay,
      paid.Sublist (blockPays (totalOf s) coins (sortedProvers (filePassOf s h).2)) ∧
      (∀ e ∈ paid, 0 < e.2.2 ∧ s2.blocked.contains e.1 = false) ∧
      s' = { s2 with bank := s'.bank } ∧
      ∀ a d, Bank.bal s'.bank a d =
        Bank.bal s2.bank a d + paidTo paid a d - (if a = s2.moduleAcc then paidOut paid d else 0) := by
  obtain ⟨lg, hsub, ⟨hb1, hb2⟩, hpos⟩ := payLoop_log _ _ _ _ _ (manageRewards_split hok hg)
  exact ⟨lg, hsub, hpos, hb1, hb2⟩

/-- C03: accounts that were not counted are unchanged by the payout phase (block-level form, with
equality; from `C03_block_payout_spec`): an address other than the module
account that is not a key of the tracker, or is the empty string, or is blocked, holds after the block
exactly what it held after the gauge pass; and the gauge pass itself touches only the gauge store and
the ledger. -/
theorem C03_block_uncounted_unchanged (s s' s2 : State) (h now : Int) (coins : Coins)
    (hok : manageRewards s h now = .ok s')
    (hg : pullGauges (filePassOf s h).1 now = .ok (s2, coins)) :
    (∀ a d, a ≠ s2.moduleAcc →
      (a ∉ AMap.keys (filePassOf s h).2 ∨ a = "" ∨ s2.blocked.contains a = true) →
      Bank.bal s'.bank a d = Bank.bal s2.bank a d) ∧
    s2 = { (filePassOf s h).1 with gauges := s2.gauges, bank := s2.bank } := by
  obtain ⟨paid, hsub, hpos, _, hbal⟩ := C03_block_payout_spec s s' s2 h now coins hok hg
  refine ⟨fun a d ha hcase => ?_, (pullGauges_frame _ _ _ _ hg).1⟩
  have hz : paidTo paid a d = 0 := by
    refine paidTo_eq_zero a d paid (fun e he ea => ?_)
    obtain ⟨hne, hmem⟩ := blockPays_recipient (hsub.subset he)
    rcases hcase with hc | hc | hc
    · exact hc (ea ▸ (sortedProvers_keys _ _).mp hmem)
    · exact hne (ea.trans hc)
    · have := (hpos e he).2
      rw [ea, hc] at this; cases this
  rw [hbal a d, if_neg ha, hz]; omega

/-- what the theorems below use of a successful block on a state with the store invariant -/
structure BlockRun (s s' s2 : State) (h : Int) (coins : Coins) : Prop where
  loop : (sortedProvers (filePassOf s h).2).foldlM
    (fun st pw => payProver st (totalOf s) coins pw.1 pw.2) s2 = .ok s'
  wf : AMap.WF (filePassOf s h).2
  sumLe : ((sortedProvers (filePassOf s h).2).map (·.2)).sum ≤ totalOf s
  nonneg : ∀ pw ∈ sortedProvers (filePassOf s h).2, 0 ≤ pw.2
  coinsNonneg : ∀ c ∈ coins, 0 ≤ c.2
  /-- a payout loop that paid somebody did not divide by zero, and the weights are at most `total` -/
  totalPos : sortedProvers (filePassOf s h).2 ≠ [] → 0 < totalOf s

theorem blockRun {s s' s2 : State} {h now : Int} {coins : Coins}
    (inv : BlockStoreInv s) (hsz : ∀ kv ∈ s.files, 0 ≤ kv.2.fileSize)
    (hok : manageRewards s h now = .ok s')
    (hg : pullGauges (filePassOf s h).1 now = .ok (s2, coins)) : BlockRun s s' s2 h coins := by
  have hloop : (sortedProvers (filePassOf s h).2).foldlM
      (fun st pw => payProver st (totalOf s) coins pw.1 pw.2) s2 = .ok s' := manageRewards_split hok hg
  obtain ⟨_, _, hsum, _, hnn⟩ := C03_block_weights_le_total s h inv hsz
  refine ⟨hloop, (C03_block_tracker_spec s h inv).2.1, hsum, hnn,
    fun c hc => Int.le_of_lt ((pullGauges_frame _ _ _ _ hg).2.1 c hc), fun hemp => ?_⟩
  have h1 := payLoop_ok_total_ne hloop hemp
  have h2 := sum_map_nonneg (fun pw : String × Int => pw.2) _ hnn
  omega

theorem BlockRun.candidates {s s' s2 : State} {h : Int} {coins : Coins} (R : BlockRun s s' s2 h coins) :
    (∀ e ∈ blockPays (totalOf s) coins (sortedProvers (filePassOf s h).2), 0 ≤ e.2.2) ∧
    ((∀ c ∈ coins, ((filePassOf s h).2.length : Int) * c.2 < 2 * 1000000000000000000) →
      ∀ d, paidOut (blockPays (totalOf s) coins (sortedProvers (filePassOf s h).2)) d ≤ Bank.amt d coins) := by
  have key := blockPays_le_released (totalOf s) coins _ R.totalPos R.coinsNonneg R.nonneg R.sumLe
  rwa [(sortedProvers_perm _).length_eq] at key

/-- the closed form of what the address `a` is owed of denomination `d`: for the tracker entry of `a`
(if any, and `a` is not the empty string) one truncated share `⌊share(w,total)·R⌋` per released coin
`(d, R)` -/
def owedTo (total : Int) (coins : Coins) (tracker : Tracker) (a d : String) : Int :=
  if a = "" then 0 else ((AMap.get tracker a).map (fun w => coinPay total d w coins)).getD 0

/-- C03, exact payout when the module account is funded: on a state with the store invariant and
non-negative file sizes, if no tracker key is blocked and the module account holds, after the gauge
pass, at least the sum of all candidate sends of every denomination, then every send goes through:
every address receives exactly `owedTo` — the size-weighted share of its tracker entry, truncated,
of every released coin — and the module account pays exactly the sum. -/
theorem C03_block_payout_exact (s s' s2 : State) (h now : Int) (coins : Coins)
    (inv : BlockStoreInv s) (hsz : ∀ kv ∈ s.files, 0 ≤ kv.2.fileSize)
    (hok : manageRewards s h now = .ok s')
    (hg : pullGauges (filePassOf s h).1 now = .ok (s2, coins))
    (hnb : ∀ a ∈ AMap.keys (filePassOf s h).2, s2.blocked.contains a = false)
    (hfund : ∀ d, paidOut (blockPays (totalOf s) coins (sortedProvers (filePassOf s h).2)) d
      ≤ Bank.bal s2.bank s2.moduleAcc d) :
    s' = { s2 with bank := s'.bank } ∧
    ∀ a d, Bank.bal s'.bank a d =
      Bank.bal s2.bank a d + owedTo (totalOf s) coins (filePassOf s h).2 a d
        - (if a = s2.moduleAcc then
            paidOut (blockPays (totalOf s) coins (sortedProvers (filePassOf s h).2)) d else 0) := by
  obtain ⟨hloop, hwf, _, hnn, hc0, hT⟩ := blockRun inv hsz hok hg
  obtain ⟨st', hst, hlog⟩ := payLoop_funded (totalOf s) coins hc0 (sortedProvers (filePassOf s h).2) s2
    (fun pw hpw => ⟨hT (List.ne_nil_of_mem hpw), hnn pw hpw,
      hnb pw.1 ((sortedProvers_keys _ _).mp (List.mem_map_of_mem hpw))⟩) hfund
  cases hloop.symm.trans hst
  refine ⟨hlog.1, fun a d => ?_⟩
  rw [hlog.2 a d, paidTo_blockPays _ _ _ _ _ (sortedProvers_wf _ hwf), sortedProvers_get _ hwf]; rfl

/-- C03, conservation and the bound on the sum paid.  With `paid` the sends of
`C03_block_payout_spec`:
1. the payout phase only moves coins out of the module account: for any duplicate-free list of
   addresses not containing the module account but containing every other tracker key, what the module
   account lost is exactly what those addresses gained (so the sum over all accounts is unchanged);
2. under the side condition of `C03_payout_sum_le_released` on the released coins — `n·R < 2·10¹⁸` for
   every released coin, `n` the number of tracker entries; the bound `Σ weights ≤ total` is *proved*
   (`C03_block_weights_le_total`) — the sum paid of every denomination is at most the amount released,
   so the module account ends the payout holding at least its balance after the gauge pass minus the
   amount released, and never more than that balance. -/
theorem C03_block_conservation (s s' s2 : State) (h now : Int) (coins : Coins)
    (inv : BlockStoreInv s) (hsz : ∀ kv ∈ s.files, 0 ≤ kv.2.fileSize)
    (hok : manageRewards s h now = .ok s')
    (hg : pullGauges (filePassOf s h).1 now = .ok (s2, coins)) :
    (∀ (accts : List String) (d : String), accts.Nodup → s2.moduleAcc ∉ accts →
      (∀ a ∈ AMap.keys (filePassOf s h).2, a = s2.moduleAcc ∨ a ∈ accts) →
      Bank.bal s'.bank s2.moduleAcc d + Bank.total s'.bank accts d
        = Bank.bal s2.bank s2.moduleAcc d + Bank.total s2.bank accts d) ∧
    ((∀ c ∈ coins, ((filePassOf s h).2.length : Int) * c.2 < 2 * 1000000000000000000) →
      ∀ d, Bank.bal s2.bank s2.moduleAcc d - Bank.amt d coins ≤ Bank.bal s'.bank s2.moduleAcc d ∧
           Bank.bal s'.bank s2.moduleAcc d ≤ Bank.bal s2.bank s2.moduleAcc d) := by
  obtain ⟨paid, hsub, hpos, hs', hbal⟩ := C03_block_payout_spec s s' s2 h now coins hok hg
  have hpaidnn : ∀ e ∈ paid, 0 ≤ e.2.2 := fun e he => Int.le_of_lt (hpos e he).1
  constructor
  · intro accts d hnd hM hcov
    refine BalLog.conserved ⟨hs', hbal⟩ accts d hnd hM (fun e he => ?_)
    exact hcov e.1 ((sortedProvers_keys _ _).mp (blockPays_recipient (hsub.subset he)).2)
  · intro hside d
    obtain ⟨hcnn, hcand⟩ := (blockRun inv hsz hok hg).candidates
    have hmod := hbal s2.moduleAcc d
    rw [if_pos rfl] at hmod
    have h1 := paidTo_le_paidOut s2.moduleAcc d paid hpaidnn
    have h0 := paidTo_nonneg s2.moduleAcc d paid hpaidnn
    have s1 := paidOut_sublist d hsub hcnn
    have := hcand hside d
    omega

/-- All candidate sends together never exceed what was released (per denomination), under the
side condition `n·R < 2·10¹⁸` on the released coins: so a module account that holds the released
coins can make every send. -/
theorem C03_block_candidates_le_released (s s' s2 : State) (h now : Int) (coins : Coins)
    (inv : BlockStoreInv s) (hsz : ∀ kv ∈ s.files, 0 ≤ kv.2.fileSize)
    (hok : manageRewards s h now = .ok s')
    (hg : pullGauges (filePassOf s h).1 now = .ok (s2, coins))
    (hside : ∀ c ∈ coins, ((filePassOf s h).2.length : Int) * c.2 < 2 * 1000000000000000000) :
    ∀ d, paidOut (blockPays (totalOf s) coins (sortedProvers (filePassOf s h).2)) d ≤ Bank.amt d coins :=
  (blockRun inv hsz hok hg).candidates.2 hside

/-- C03 at block level: every counted prover receives its size-weighted share, within one base unit,
of each denomination.  Store invariant, non-negative sizes, no tracker key
blocked, the side condition on the released coins, and a module account that holds the released coins
after the gauge pass.  Then for every tracker entry `a ↦ w` (`w = Σ fileSize` over the passing pairs
credited to `a`, by `C03_block_tracker_spec`) with `a` a non-empty name other than the module account,
and every released coin `(d, R)` with `R ≤ 10¹⁸`: `a` gains exactly `⌊share(w,total)·R⌋` units of `d`,
which is within one unit of `⌊w·R/total⌋`; addresses that are no tracker key gain nothing. -/
theorem C03_block_share_within_one_unit (s s' s2 : State) (h now : Int) (coins : Coins)
    (inv : BlockStoreInv s) (hsz : ∀ kv ∈ s.files, 0 ≤ kv.2.fileSize)
    (hok : manageRewards s h now = .ok s')
    (hg : pullGauges (filePassOf s h).1 now = .ok (s2, coins))
    (hnb : ∀ a ∈ AMap.keys (filePassOf s h).2, s2.blocked.contains a = false)
    (hside : ∀ c ∈ coins, ((filePassOf s h).2.length : Int) * c.2 < 2 * 1000000000000000000)
    (hheld : ∀ d, Bank.amt d coins ≤ Bank.bal s2.bank s2.moduleAcc d) :
    (∀ a w d R, AMap.get (filePassOf s h).2 a = some w → a ≠ "" → a ≠ s2.moduleAcc → (d, R) ∈ coins →
      R ≤ 1000000000000000000 →
      w = blockCredit s h s.files a ∧
      Bank.bal s'.bank a d = Bank.bal s2.bank a d + payout (totalOf s) R w ∧
      payout (totalOf s) R w ≤ w * R / totalOf s + 1 ∧ w * R / totalOf s - 1 ≤ payout (totalOf s) R w) ∧
    (∀ a d, a ∉ AMap.keys (filePassOf s h).2 → a ≠ s2.moduleAcc →
      Bank.bal s'.bank a d = Bank.bal s2.bank a d) := by
  have R := blockRun inv hsz hok hg
  obtain ⟨_, hex⟩ := C03_block_payout_exact s s' s2 h now coins inv hsz hok hg hnb
    (fun d => Int.le_trans (R.candidates.2 hside d) (hheld d))
  refine ⟨?_, fun a d ha hm => (C03_block_uncounted_unchanged s s' s2 h now coins hok hg).1 a d hm (Or.inl ha)⟩
  intro a w d R' hget hne hm hmem hR
  have hin := (sortedProvers_perm (filePassOf s h).2).mem_iff.mpr (AMap.mem_of_get hget)
  have hw : w = blockCredit s h s.files a := by
    have := (C03_block_tracker_spec s h inv).2.2.1 a
    rw [hget] at this; simpa using this
  have hpay : owedTo (totalOf s) coins (filePassOf s h).2 a d = payout (totalOf s) R' w := by
    unfold owedTo
    simp only [hne, if_false, hget, Option.map_some, Option.getD_some]
    exact coinPay_of_nodup _ _ _ _ _ (pullGauges_frame _ _ _ _ hg).2.2 hmem
  have hcl := payout_close (totalOf s) R' w (R.nonneg (a, w) hin) (R.totalPos (List.ne_nil_of_mem hin))
    (R.coinsNonneg (d, R') hmem) (by unfold precision; exact hR)
  refine ⟨hw, ?_, hcl.1, hcl.2⟩
  rw [hex a d, hpay, if_neg hm]; omega

/-- … hence the module account ends the block holding at least what it held before the release,
provided the coins counted as released did arrive in the module account (`pullGauge` adds a coin to
`coins` *before* the send from the escrow account and keeps it there if that send fails, as
`pullTokensFromGauges` does).  `harr` is proved from "no escrow account is the module account, recorded
amounts are non-negative" in `RewardBlock.pullGauges_arrive` and discharged that way in
`C03_reward_block_end_to_end`. -/
theorem C03_block_module_keeps_prior_funds (s s' s2 : State) (h now : Int) (coins : Coins)
    (inv : BlockStoreInv s) (hsz : ∀ kv ∈ s.files, 0 ≤ kv.2.fileSize)
    (hok : manageRewards s h now = .ok s')
    (hg : pullGauges (filePassOf s h).1 now = .ok (s2, coins))
    (hside : ∀ c ∈ coins, ((filePassOf s h).2.length : Int) * c.2 < 2 * 1000000000000000000)
    (harr : ∀ d, Bank.bal s.bank s.moduleAcc d + Bank.amt d coins ≤ Bank.bal s2.bank s2.moduleAcc d) :
    s'.moduleAcc = s.moduleAcc ∧ ∀ d, Bank.bal s.bank s.moduleAcc d ≤ Bank.bal s'.bank s'.moduleAcc d := by
  obtain ⟨_, hc⟩ := C03_block_conservation s s' s2 h now coins inv hsz hok hg
  obtain ⟨_, _, _, hs', _⟩ := C03_block_payout_spec s s' s2 h now coins hok hg
  have hm : s'.moduleAcc = s2.moduleAcc := by rw [hs']
  obtain ⟨-, -, -, -, -, -, r7, -⟩ : SameRestB (filePassOf s h).1 s := filePass_rest h s.files s []
  have hm2 : s2.moduleAcc = s.moduleAcc := by rw [(pullGauges_frame _ _ _ _ hg).1]; exact r7
  refine ⟨hm.trans hm2, fun d => ?_⟩
  have := (hc hside d).1
  have := harr d
  rw [hm]; omega

/-- C03 for the whole block, end to end.  Store invariant, non-negative file sizes, gauges whose
escrow accounts are not the module account and whose recorded amounts are non-negative, a module
account without negative balances.  If the block succeeds then the gauge pass succeeded with some
`(s2, coins)`, *every released coin arrived in the module account* (no send of the gauge pass can
fail), and — when no tracker key is blocked and `n·R < 2·10¹⁸` for every released coin —
* every tracker entry `a ↦ w` (`a` non-empty, not the module account; `w = Σ fileSize` over the passing
  pairs credited to `a`) gains exactly `⌊share(w,total)·R⌋` of every released coin `(d, R)` with
  `R ≤ 10¹⁸`, within one unit of `⌊w·R/total⌋`;
* every other address except the module account is unchanged by the payout;
* the module account ends the block with at least what it held before the block. -/
theorem C03_reward_block_end_to_end (s s' : State) (h now : Int)
    (inv : BlockStoreInv s) (hsz : ∀ kv ∈ s.files, 0 ≤ kv.2.fileSize)
    (hgacc : ∀ kv ∈ s.gauges, kv.2.account ≠ s.moduleAcc)
    (hgamt : ∀ kv ∈ s.gauges, ∀ c ∈ kv.2.coins, 0 ≤ c.2)
    (hM0 : ∀ d, 0 ≤ Bank.bal s.bank s.moduleAcc d)
    (hok : manageRewards s h now = .ok s') :
    ∃ s2 coins, pullGauges (filePassOf s h).1 now = .ok (s2, coins) ∧
      s2.moduleAcc = s.moduleAcc ∧ s'.moduleAcc = s.moduleAcc ∧
      (∀ d, Bank.bal s2.bank s.moduleAcc d = Bank.bal s.bank s.moduleAcc d + Bank.amt d coins) ∧
      ((∀ a ∈ AMap.keys (filePassOf s h).2, s.blocked.contains a = false) →
       (∀ c ∈ coins, ((filePassOf s h).2.length : Int) * c.2 < 2 * 1000000000000000000) →
        (∀ a w d R, AMap.get (filePassOf s h).2 a = some w → a ≠ "" → a ≠ s.moduleAcc → (d, R) ∈ coins →
          R ≤ 1000000000000000000 →
          w = blockCredit s h s.files a ∧
          Bank.bal s'.bank a d = Bank.bal s2.bank a d + payout (totalOf s) R w ∧
          payout (totalOf s) R w ≤ w * R / totalOf s + 1 ∧ w * R / totalOf s - 1 ≤ payout (totalOf s) R w) ∧
        (∀ a d, a ∉ AMap.keys (filePassOf s h).2 → a ≠ s.moduleAcc →
          Bank.bal s'.bank a d = Bank.bal s2.bank a d) ∧
        (∀ d, Bank.bal s.bank s.moduleAcc d ≤ Bank.bal s'.bank s.moduleAcc d)) := by
  obtain ⟨s2, coins, hg, -⟩ := manageRewards_spec hok
  have hg : pullGauges (filePassOf s h).1 now = .ok (s2, coins) := hg
  obtain ⟨-, r2, -, -, r5, -, r7, -, -, -, r11⟩ : SameRestB (filePassOf s h).1 s := filePass_rest h s.files s []
  have hfr := (pullGauges_frame _ _ _ _ hg).1
  have hm2 : s2.moduleAcc = s.moduleAcc := by rw [hfr]; exact r7
  have hb2 : s2.blocked = s.blocked := by rw [hfr]; exact r11
  have harr := pullGauges_arrive (filePassOf s h).1 s2 now coins
    (by rw [r2, r7]; exact hgacc) (by rw [r2]; exact hgamt) hg
  rw [r5, r7, hm2] at harr
  obtain ⟨_, _, _, hs', _⟩ := C03_block_payout_spec s s' s2 h now coins hok hg
  have hm' : s'.moduleAcc = s.moduleAcc := by rw [hs']; exact hm2
  refine ⟨s2, coins, hg, hm2, hm', harr, fun hnb hside => ?_⟩
  have hheld : ∀ d, Bank.amt d coins ≤ Bank.bal s2.bank s2.moduleAcc d := by
    intro d; rw [hm2, harr d]; have := hM0 d; omega
  obtain ⟨t1, t2⟩ := C03_block_share_within_one_unit s s' s2 h now coins inv hsz hok hg
    (by rw [hb2]; exact hnb) hside hheld
  rw [hm2] at t1 t2
  have t3 := (C03_block_module_keeps_prior_funds s s' s2 h now coins inv hsz hok hg hside
    (by intro d; rw [hm2, harr d]; omega)).2
  rw [hm'] at t3
  exact ⟨t1, t2, t3⟩

/-- the storage BeginBlocker as a whole: off the check window nothing happens, on it the block is
`manageRewards` (to which the block theorems above apply) -/
theorem C03_beginBlock_cases (s s' : State) (h now : Int) (hok : beginBlock s h now = .ok s') :
    s.params.checkWindow ≠ 0 ∧
    ((0 < Int.tmod h s.params.checkWindow ∧ s' = s) ∨
     (¬ 0 < Int.tmod h s.params.checkWindow ∧ manageRewards s h now = .ok s')) :=
  beginBlock_spec hok

/-! Witness for the block theorems: two files, three provers, one of which fails.
`wFile` (size 10: `fail`, `ok1`, `ok2`) and `wFileB` (size 20: `ok1`), height 100; one live gauge of
1000 ujkl half-way through its life, so 500 ujkl are released; `total = 10·3 + 20·1 = 50`. -/

def wFileB : File :=
  { merkle := "n", owner := "o", start := 0, expires := 0, fileSize := 20, proofInterval := 5, proofType := 0,
    proofs := [("ok1", ("n", "o", 0))], maxProofs := 3, note := "" }

def wGauge : Gauge := { id := "g1", startT := 0, endT := 10000000, coins := [("ujkl", 1000)], account := "gauge1" }

def wState2 : State :=
  { wState with
    files := [(wFile.key, wFile), (wFileB.key, wFileB)], files2 := [(wFile.key, wFile), (wFileB.key, wFileB)],
    proofs := wState.proofs ++ [(("ok1", wFileB.key), { wProof "ok1" 97 with merkle := "n" })],
    gauges := [("g1", wGauge)],
    bank := [(("gauge1", "ujkl"), 1000)] }

theorem ok_of_toOption {ε α : Type} {r : Except ε α} {x : α} (h : r.toOption = some x) : r = .ok x := by
  cases r with
  | error e => simp [Except.toOption] at h
  | ok a => simp [Except.toOption] at h; rw [h]

/-- the state after the gauge pass: 500 ujkl moved from the escrow account to the module account -/
def w2S2 : State :=
  { (filePassOf wState2 100).1 with bank := [(("gauge1", "ujkl"), 500), (("storage", "ujkl"), 500)] }

def w2Final : State :=
  { w2S2 with bank := [(("gauge1", "ujkl"), 500), (("storage", "ujkl"), 100), (("ok1", "ujkl"), 300), (("ok2", "ujkl"), 100)] }

theorem w2_inv : BlockStoreInv wState2 :=
  ⟨by unfold AMap.WF AMap.keys; decide +kernel, by decide +kernel, by decide +kernel, by decide +kernel,
    by decide +kernel⟩
theorem w2_sizes : ∀ kv ∈ wState2.files, 0 ≤ kv.2.fileSize := by decide +kernel
theorem w2_tracker : (filePassOf wState2 100).2 = [("ok1", 30), ("ok2", 10)] := by decide +kernel
theorem w2_gauges : pullGauges (filePassOf wState2 100).1 5000000 = .ok (w2S2, [("ujkl", 500)]) :=
  ok_of_toOption (by decide +kernel)

/-- the block succeeds on the witness, with this final state (`mergeSort` is rewritten, the rest is evaluated) -/
theorem w2_block : manageRewards wState2 100 5000000 = .ok w2Final := by
  have hg : pullGauges (filePass 100 wState2.files wState2 []).1 5000000 = .ok (w2S2, [("ujkl", 500)]) := w2_gauges
  have ht : (filePass 100 wState2.files wState2 []).2 = [("ok1", 30), ("ok2", 10)] := w2_tracker
  rw [manageRewards_eq, hg, ht]
  show List.foldlM _ _ (sortedProvers [("ok1", 30), ("ok2", 10)]) = _
  rw [show sortedProvers [("ok1", (30 : Int)), ("ok2", 10)] = [("ok1", 30), ("ok2", 10)] from
    List.mergeSort_of_pairwise (by decide +kernel)]
  exact ok_of_toOption (by decide +kernel)

theorem w2_notBlocked : ∀ a ∈ AMap.keys (filePassOf wState2 100).2, w2S2.blocked.contains a = false := by
  rw [w2_tracker]; decide +kernel
theorem w2_side : ∀ c ∈ [("ujkl", (500 : Int))],
    ((filePassOf wState2 100).2.length : Int) * c.2 < 2 * 1000000000000000000 := by
  rw [w2_tracker]; decide +kernel
theorem w2_held : ∀ d, Bank.amt d [("ujkl", 500)] ≤ Bank.bal w2S2.bank w2S2.moduleAcc d := by
  intro d
  have hm : w2S2.moduleAcc = "storage" := by decide +kernel
  have hb : w2S2.bank = [(("gauge1", "ujkl"), 500), (("storage", "ujkl"), 500)] := rfl
  rw [hm, hb]
  by_cases hd : d = "ujkl"
  · subst hd; decide +kernel
  · simp [Bank.amt, Ne.symm hd]
    unfold Bank.bal; simp [AMap.get, Ne.symm hd]

theorem w2_module_empty (d : String) : Bank.bal wState2.bank wState2.moduleAcc d = 0 := by
  unfold Bank.bal; simp [wState2, wState, AMap.get]

/-- every hypothesis of the block theorems holds on the witness (the block is on the check window,
so `beginBlock` runs it) … -/
example : BlockStoreInv wState2 ∧ (∀ kv ∈ wState2.files, 0 ≤ kv.2.fileSize) ∧
    beginBlock wState2 100 5000000 = .ok w2Final ∧ manageRewards wState2 100 5000000 = .ok w2Final ∧
    pullGauges (filePassOf wState2 100).1 5000000 = .ok (w2S2, [("ujkl", 500)]) ∧
    (∀ a ∈ AMap.keys (filePassOf wState2 100).2, w2S2.blocked.contains a = false) ∧
    (∀ c ∈ [("ujkl", (500 : Int))], ((filePassOf wState2 100).2.length : Int) * c.2 < 2 * 1000000000000000000) ∧
    (∀ d, Bank.amt d [("ujkl", 500)] ≤ Bank.bal w2S2.bank w2S2.moduleAcc d) ∧
    (∀ d, Bank.bal wState2.bank wState2.moduleAcc d + Bank.amt d [("ujkl", 500)] ≤ Bank.bal w2S2.bank w2S2.moduleAcc d) :=
  ⟨w2_inv, w2_sizes, by rw [← w2_block]; rfl, w2_block, w2_gauges, w2_notBlocked, w2_side, w2_held,
   fun d => by rw [w2_module_empty]; have := w2_held d; omega⟩

/-- … the file pass does what `C03_block_tracker_spec` says: `ok1` is credited both files (30), `ok2`
one (10), `fail` nothing; `fail` is removed from `wFile` only, its record erased and its provider burned
once; `wFileB` keeps its prover … -/
example :
    (filePassOf wState2 100).2 = [("ok1", 30), ("ok2", 10)] ∧
    blockEntries wState2 100 wState2.files = [("ok1", 10), ("ok2", 10), ("ok1", 20)] ∧
    blockCredit wState2 100 wState2.files "ok1" = 30 ∧ blockCredit wState2 100 wState2.files "fail" = 0 ∧
    totalOf wState2 = 50 ∧
    (outcome wState2 100 wFile).map (·.proofs) = some [("ok1", wFile.key), ("ok2", wFile.key)] ∧
    (outcome wState2 100 wFileB).map (·.proofs) = some [("ok1", wFileB.key)] ∧
    failsIn wState2 100 wState2.files ("fail", wFile.key) = true ∧
    failsIn wState2 100 wState2.files ("ok1", wFileB.key) = false ∧
    blockBurns wState2 100 wState2.files "fail" = 1 ∧ blockBurns wState2 100 wState2.files "ok1" = 0 ∧
    AMap.get (filePassOf wState2 100).1.proofs ("fail", wFile.key) = none ∧
    (AMap.get (filePassOf wState2 100).1.providers "fail").map (·.burned) = some (some 1) := by decide +kernel

/-- … and the payout is the one the theorems give: of the 500 ujkl released, `ok1` gets
`⌊30/50·500⌋ = 300`, `ok2` `⌊10/50·500⌋ = 100`, `fail` nothing; the failed prover's 100 stay in the
module account, which pays out exactly 400. -/
example :
    Bank.bal w2Final.bank "ok1" "ujkl" = 300 ∧ Bank.bal w2Final.bank "ok2" "ujkl" = 100 ∧
    Bank.bal w2Final.bank "fail" "ujkl" = 0 ∧ Bank.bal w2Final.bank "storage" "ujkl" = 100 ∧
    Bank.bal w2S2.bank "storage" "ujkl" = 500 ∧
    payout (totalOf wState2) 500 30 = 300 ∧ payout (totalOf wState2) 500 10 = 100 := by decide +kernel

example : Bank.bal w2Final.bank "ok1" "ujkl" = Bank.bal w2S2.bank "ok1" "ujkl" + payout (totalOf wState2) 500 30 :=
  ((C03_block_share_within_one_unit wState2 w2Final w2S2 100 5000000 [("ujkl", 500)] w2_inv w2_sizes w2_block
      w2_gauges w2_notBlocked w2_side w2_held).1 "ok1" 30 "ujkl" 500
    (by rw [w2_tracker]; decide +kernel) (by decide) (by decide) (by simp) (by decide)).2.1

/-- the hypotheses of `C03_reward_block_end_to_end` hold on the witness too (escrow account `gauge1`
is not the module account, the recorded amount is non-negative, the module account starts empty) -/
example : True := by
  have := C03_reward_block_end_to_end wState2 w2Final 100 5000000 w2_inv w2_sizes (by decide +kernel) (by decide +kernel)
    (fun d => Int.le_of_eq (w2_module_empty d).symm) w2_block
  trivial

/-- The amount `tokensValueOwed` that `rewardAllProviders` pays a prover for one released coin —
sliced out of x/storage/keeper/rewards.go and translated on every run, as a function of the size
credited to the prover, the network total and the released amount — is the expression the model's
`payProver` evaluates and `C03_payout_close_to_share` bounds: the share `worth/total` rounded at
the 18th decimal, times the amount, *truncated*. -/
theorem C03_generated_payout_is_the_model (w T R : Int) :
    Generated.Pure.rewardAllProviders_tokensValueOwed w T R =
      (Dec.quo? (Dec.ofInt w) (Dec.ofInt T)).map (fun share => Dec.trunc (Dec.mul share (Dec.ofInt R))) ∧
    Generated.Pure.rewardAllProviders_tokensValueOwed_inputs =
      ["(*sizeTracker)[prover]", "totalSize", "coin.Amount"] := by
  refine ⟨?_, rfl⟩
  unfold Generated.Pure.rewardAllProviders_tokensValueOwed
  simp only [bind, Option.bind]
  cases Dec.quo? (Dec.ofInt w) (Dec.ofInt T) <;> rfl

end Canine.Storage
