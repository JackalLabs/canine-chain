/-
C15 — Provider collateral is fully backed and returned exactly once.

`initProvider` moves the collateral price of the moment from the registrant to the escrow account
and records it; `shutdownProvider` returns the *recorded* amount — whatever the price parameter
says by then — and deletes record and provider, so nothing can be claimed twice or by anybody else.
The escrow account always holds exactly the sum of the recorded collaterals (`CollInv`, defined in
`Canine/Proofs/Collateral.lean` together with the configuration facts it rests on), along every
history of messages, reward blocks and parameter changes.
-/
import Canine.Proofs.Collateral
namespace Canine.Storage
open Bank

/-- One message (any of the 15, signed by anyone but the keyless escrow account) keeps the escrow
account's balance equal to the sum of the collateral records. -/
theorem C15_escrow_invariant_step (s s' : State) (h now : Int) (op : Op) (hinv : CollInv s)
    (hc : op.creator ≠ s.collateralAcc) (hca : acctOf s op.creator ≠ s.collateralAcc)
    (hstep : step s h now op = some s') : CollInv s' := by
  cases hop : op.touchesCollateral with
  | false => exact hinv.frame (step_frame hinv hc hop hstep)
  | true =>
    cases op with
    | initProvider => exact collInv_initProvider hinv hca hstep
    | shutdownProvider => exact collInv_shutdownProvider hinv hca hstep
    | _ => cases hop

/-- Only registration and shutdown touch the escrow: any other successful message
leaves the collateral records and every balance of the escrow account as they were. -/
theorem C15_other_messages_leave_escrow_alone (s s' : State) (h now : Int) (op : Op) (hinv : CollInv s)
    (hc : op.creator ≠ s.collateralAcc) (hop : op.touchesCollateral = false)
    (hstep : step s h now op = some s') :
    s'.collateral = s.collateral ∧ s'.collateralAcc = s.collateralAcc ∧
    ∀ d, bal s'.bank s.collateralAcc d = bal s.bank s.collateralAcc d :=
  have f := step_frame hinv hc hop hstep
  ⟨f.cfg.coll, f.cfg.cacc, f.esc⟩

/-- The reward block keeps it: provers are paid by the module account, gauges pay the module
account, and the escrow account is a blocked recipient that is neither. -/
theorem C15_escrow_invariant_block (s s' : State) (h now : Int) (hinv : CollInv s)
    (hb : beginBlock s h now = .ok s') : CollInv s' :=
  hinv.frame (beginBlock_frame hinv hb)

/-- A parameter change (in particular a new collateral price) keeps it: the invariant does not
mention the parameters. -/
theorem C15_escrow_invariant_params (s : State) (p : Params) (hinv : CollInv s) :
    CollInv { s with params := p } :=
  ⟨hinv.wf, hinv.escBlocked, hinv.modNe, hinv.feeNe, hinv.gaugeNe, hinv.provided, hinv.nonneg, hinv.backed⟩

/-- what can happen to the module's state: a delivered message (failed ones commit nothing), a
block boundary (a panicking BeginBlocker halts the chain: no new state), a governance parameter
change -/
inductive Event where
  | msg (h now : Int) (op : Op)
  | block (h now : Int)
  | setParams (p : Params)

def applyEvent (s : State) : Event → State
  | .msg h now op => stepT s h now op
  | .block h now => match beginBlock s h now with
    | .ok s' => s'
    | .error _ => s
  | .setParams p => { s with params := p }

def run (s : State) (es : List Event) : State := es.foldl applyEvent s

/-- the message is not signed by the escrow account (a module account, which has no key) — under
no spelling of its address: `op.creator` is the signer string as sent, which most handlers send
from; `acctOf` is the account it denotes (`State.canon`), which registration and shutdown debit
and credit -/
def Event.signedOk (s : State) : Event → Prop
  | .msg _ _ op => op.creator ≠ s.collateralAcc ∧ acctOf s op.creator ≠ s.collateralAcc
  | _ => True

/-- `signedOk` for every message of a history, each judged in the state it is delivered to -/
def signedAlong : State → List Event → Prop
  | _, [] => True
  | s, e :: es => e.signedOk s ∧ signedAlong (applyEvent s e) es

theorem applyEvent_inv (s : State) (e : Event) (hinv : CollInv s) (hc : e.signedOk s) :
    CollInv (applyEvent s e) := by
  cases e with
  | msg h now op =>
    exact getD_inv hinv (fun s' hs => C15_escrow_invariant_step s s' h now op hinv hc.1 hc.2 hs)
  | block h now =>
    simp only [applyEvent]
    split
    · exact C15_escrow_invariant_block s _ h now hinv ‹_›
    · exact hinv
  | setParams p => exact C15_escrow_invariant_params s p hinv

/-- From any state satisfying the invariant, after any sequence of messages,
reward blocks and parameter changes, the escrow account still holds exactly the sum of the recorded
collaterals (and every record is non-negative and belongs to a registered provider). -/
theorem C15_escrow_invariant (es : List Event) :
    ∀ (s : State), CollInv s → signedAlong s es → CollInv (run s es) := by
  induction es with
  | nil => intro s hinv _; exact hinv
  | cons e rest ih =>
    intro s hinv hc
    simp only [run, List.foldl_cons]
    exact ih _ (applyEvent_inv s e hinv hc.1) hc.2

theorem C15_escrow_backed_along_histories (es : List Event) (s : State) (hinv : CollInv s)
    (hc : signedAlong s es) :
    bal (run s es).bank (run s es).collateralAcc "ujkl" = AMap.sumBy id (run s es).collateral :=
  (C15_escrow_invariant es s hinv hc).backed

theorem C15_genesis (s : State) (hc : s.collateral = []) (hb : s.collateralAcc ∈ s.blocked)
    (hm : s.moduleAcc ≠ s.collateralAcc) (hf : s.feeAcc ≠ s.collateralAcc)
    (hg : ∀ kv ∈ s.gauges, kv.2.account ≠ s.collateralAcc)
    (h0 : bal s.bank s.collateralAcc "ujkl" = 0) : CollInv s :=
  ⟨by rw [hc]; simp [AMap.WF, AMap.keys], hb, hm, hf, hg, by rw [hc]; simp, by rw [hc]; simp,
   by rw [h0, hc]; simp [AMap.sumBy]⟩

/-! ## registration locks the price of the moment -/

/-- A successful registration: there was no provider under that address, the registrant is debited
exactly the current `collateralPrice`, the escrow account credited the same, the record is that
amount, the provider exists, and no other balance or record changes. -/
theorem C15_init_locks_current_price (s s' : State) (c ip kb : String) (ts : Int) (iv : Bool)
    (hc : acctOf s c ≠ s.collateralAcc) (h : initProvider s c ip kb ts iv = some s') :
    AMap.get s.providers c = none ∧ 0 ≤ s.params.collateralPrice ∧
    AMap.get s'.collateral c = some s.params.collateralPrice ∧
    (AMap.get s'.providers c).isSome ∧
    bal s'.bank (acctOf s c) "ujkl" = bal s.bank (acctOf s c) "ujkl" - s.params.collateralPrice ∧
    bal s'.bank s.collateralAcc "ujkl" = bal s.bank s.collateralAcc "ujkl" + s.params.collateralPrice ∧
    (∀ a d, (a ≠ acctOf s c ∧ a ≠ s.collateralAcc) ∨ d ≠ "ujkl" → bal s'.bank a d = bal s.bank a d) ∧
    (∀ k, k ≠ c → AMap.get s'.collateral k = AMap.get s.collateral k) := by
  obtain ⟨hnone, hp, hsend, hs⟩ := initProvider_spec h
  have hb := bal_send_coinsOf hsend
  refine ⟨hnone, hp, by rw [hs]; simp, by rw [hs]; simp, ?_, ?_, ?_, ?_⟩
  · rw [hb]; simp [hc]
  · rw [hb]; simp [Ne.symm hc]
  · intro a d hor
    rw [hb]
    rcases hor with ⟨h1, h2⟩ | h1
    · simp [h1, h2]
    · simp [h1]
  · intro k hk
    rw [hs]; exact AMap.get_set_ne hk

/-! ## shutdown returns the recorded amount -/

/-- A successful shutdown of a provider with a record `amt`: the provider (the signer) is credited
exactly `amt`, the escrow account debited the same, and record and provider are gone.  The
statement does not mention `params.collateralPrice`: later price changes are irrelevant. -/
theorem C15_shutdown_returns_recorded_amount (s s' : State) (c : String) (amt : Int)
    (hc : acctOf s c ≠ s.collateralAcc) (hrec : AMap.get s.collateral c = some amt)
    (h : shutdownProvider s c = some s') :
    0 ≤ amt ∧ acctOf s c ∉ s.blocked ∧
    bal s'.bank (acctOf s c) "ujkl" = bal s.bank (acctOf s c) "ujkl" + amt ∧
    bal s'.bank s.collateralAcc "ujkl" = bal s.bank s.collateralAcc "ujkl" - amt ∧
    AMap.get s'.collateral c = none ∧ AMap.get s'.providers c = none := by
  obtain ⟨_, hcase⟩ := shutdownProvider_spec h
  rcases hcase with ⟨amt', hrec', h0, hnb, hsend, hs⟩ | ⟨hrec', _⟩
  · rw [hrec] at hrec'; cases hrec'
    have hb := bal_send_coinsOf hsend
    refine ⟨h0, hnb, ?_, ?_, by rw [hs]; simp, by rw [hs]; simp⟩
    · rw [hb]; simp [hc]
    · rw [hb]; simp [Ne.symm hc]
  · rw [hrec] at hrec'; cases hrec'

/-- `shutdownProvider` never reads the parameters -/
theorem shutdownProvider_params (s : State) (p : Params) (c : String) :
    shutdownProvider { s with params := p } c = (shutdownProvider s c).map ({ · with params := p }) := by
  unfold shutdownProvider
  cases AMap.get s.collateral c <;>
    simp only [bind, Option.map_bind, Function.comp_def, Option.map_some] <;> rfl

/-- the same transaction under any other parameter set returns the same tokens -/
theorem C15_shutdown_ignores_price_changes (s : State) (p : Params) (c : String) :
    (shutdownProvider { s with params := p } c).map (·.bank) = (shutdownProvider s c).map (·.bank) ∧
    (shutdownProvider { s with params := p } c).map (·.collateral) = (shutdownProvider s c).map (·.collateral) := by
  rw [shutdownProvider_params, Option.map_map, Option.map_map]
  exact ⟨rfl, rfl⟩

/-! ## nothing is claimed twice, nothing by anybody else -/

theorem C15_no_claim_without_provider (s : State) (c : String) (h : AMap.get s.providers c = none) :
    shutdownProvider s c = none := by
  cases h' : shutdownProvider s c with
  | none => rfl
  | some s' =>
    have := (shutdownProvider_spec h').1
    rw [h] at this; cases this

/-- After a successful shutdown the provider is gone, so a second shutdown by the same account
fails (until it registers — and pays — again). -/
theorem C15_no_second_claim (s s' : State) (c : String) (h : shutdownProvider s c = some s') :
    shutdownProvider s' c = none ∧ AMap.get s'.providers c = none ∧ AMap.get s'.collateral c = none := by
  have hgone : AMap.get s'.providers c = none ∧ AMap.get s'.collateral c = none := by
    obtain ⟨_, ⟨_, _, _, _, _, hs⟩ | ⟨hn, hs⟩⟩ := shutdownProvider_spec h
    · rw [hs]; exact ⟨AMap.get_erase_self _ _, AMap.get_erase_self _ _⟩
    · rw [hs]; exact ⟨AMap.get_erase_self _ _, hn⟩
  exact ⟨C15_no_claim_without_provider s' c hgone.1, hgone⟩

/-- A shutdown signed by `c` changes no balance other than `c`'s and the escrow's, and removes no
record and no provider other than `c`'s. -/
theorem C15_no_foreign_claim (s s' : State) (c : String) (h : shutdownProvider s c = some s') :
    (∀ a d, a ≠ acctOf s c → a ≠ s.collateralAcc → bal s'.bank a d = bal s.bank a d) ∧
    (∀ a d, d ≠ "ujkl" → bal s'.bank a d = bal s.bank a d) ∧
    (∀ k, k ≠ c → AMap.get s'.collateral k = AMap.get s.collateral k ∧
                  AMap.get s'.providers k = AMap.get s.providers k) := by
  obtain ⟨_, hcase⟩ := shutdownProvider_spec h
  rcases hcase with ⟨amt, hrec, h0, hnb, hsend, hs⟩ | ⟨hrec, hs⟩
  · have hb := bal_send_coinsOf hsend
    refine ⟨fun a d h1 h2 => by rw [hb]; simp [h1, h2],
      fun a d h1 => by rw [hb]; simp [h1], fun k hk => ?_⟩
    rw [hs]
    exact ⟨AMap.get_erase_ne hk, AMap.get_erase_ne hk⟩
  · rw [hs]
    exact ⟨fun _ _ _ _ => rfl, fun _ _ _ => rfl, fun k hk => ⟨rfl, AMap.get_erase_ne hk⟩⟩

/-! ## non-vacuity -/

def exParams15 : Params :=
  { proofWindow := 50, checkWindow := 100, chunkSize := 1024, pricePerTbPerMonth := 8,
    collateralPrice := 10000000000, attestFormSize := 5, attestMinToPass := 3,
    referralCommission := 25, polRatio := 40 }

def exProv (a : String) : Provider :=
  { address := a, ip := "https://" ++ a, totalspace := "1000", burned := some 0, creator := a,
    keybase := "", claimers := [] }

/-- two providers registered under different prices (10 000 JKL, then 2 500 JKL), escrow = the sum -/
def exColl : State :=
  { files := [], files2 := [], proofs := [],
    providers := [("p1", exProv "p1"), ("p2", exProv "p2")], payinfo := [],
    collateral := [("p1", 10000000000), ("p2", 2500000000)],
    gauges := [("g1", { id := "g1", startT := 0, endT := 1000000000, coins := [("ujkl", 7)], account := "gauge1" })],
    attests := [], reports := [],
    bank := [(("coll", "ujkl"), 12500000000), (("p3", "ujkl"), 20000000000), (("gauge1", "ujkl"), 7)],
    params := exParams15, moduleAcc := "storage", collateralAcc := "coll", polAcc := "pol", feeAcc := "fees",
    blocked := ["coll", "fees", "storage"] }

theorem exColl_inv : CollInv exColl := by
  have hrec : ∀ kv ∈ exColl.collateral, (AMap.get exColl.providers kv.1).isSome ∧ 0 ≤ kv.2 := by decide +kernel
  exact ⟨(by decide : (AMap.keys exColl.collateral).Nodup), by decide, by decide, by decide, by decide,
    fun a v hv => (hrec (a, v) (AMap.mem_of_get hv)).1, fun a v hv => (hrec (a, v) (AMap.mem_of_get hv)).2,
    by decide⟩

/-- p3 registers at price 10 000 JKL, governance then lowers the price to 7, p3 shuts down: it gets
back the 10 000 JKL it locked, the escrow again holds exactly the two remaining records, and a
second shutdown fails. -/
def exAfterInit : Option State := initProvider exColl "p3" "https://p3" "" 1000 true
def exAfterShutdown : Option State :=
  exAfterInit.bind (fun s1 => shutdownProvider { s1 with params := { s1.params with collateralPrice := 7 } } "p3")

example : exAfterInit.map (fun s => (bal s.bank "p3" "ujkl", bal s.bank "coll" "ujkl", AMap.get s.collateral "p3"))
    = some (10000000000, 22500000000, some 10000000000) := by decide +kernel
example : exAfterShutdown.map (fun s => (bal s.bank "p3" "ujkl", bal s.bank "coll" "ujkl", s.collateral, s.params.collateralPrice))
    = some (20000000000, 12500000000, [("p1", 10000000000), ("p2", 2500000000)], 7) := by decide +kernel
example : exAfterShutdown.bind (fun s => shutdownProvider s "p3") = none := by decide +kernel
/-- a non-provider cannot withdraw anything -/
example : shutdownProvider exColl "mallory" = none := by decide +kernel

/-- a history with all three kinds of events: registration, a reward block that releases from the
gauge, a price change, shutdown -/
def exHistory : List Event :=
  [.msg 99 400000000 (.initProvider "p3" "https://p3" "" 1000 true),
   .block 100 500000000,
   .setParams { exParams15 with collateralPrice := 7 },
   .msg 101 600000000 (.shutdownProvider "p3")]

/-- its first message is not signed by the escrow account (the block's successor state is not evaluated:
`signedOk` of a non-message event is `True`, and the last message is judged below on `exHistory'`) -/
example : (Event.msg 99 400000000 (.initProvider "p3" "https://p3" "" 1000 true)).signedOk exColl := by
  simp only [Event.signedOk, Op.creator]; decide

/-- the same history without the block (whose prover sort is defined by well-founded recursion and
does not reduce in the kernel), evaluated -/
def exHistory' : List Event :=
  [.msg 99 400000000 (.initProvider "p3" "https://p3" "" 1000 true),
   .setParams { exParams15 with collateralPrice := 7 },
   .msg 101 600000000 (.shutdownProvider "p3")]

/-- its messages are not signed by the escrow account, so the history theorem applies to it -/
theorem exHistory'_signed : signedAlong exColl exHistory' := by
  simp only [signedAlong, exHistory', Event.signedOk, Op.creator]
  refine ⟨by decide +kernel, trivial, by decide +kernel, trivial⟩

example : CollInv (run exColl exHistory') :=
  C15_escrow_invariant exHistory' exColl exColl_inv exHistory'_signed

example : (bal (run exColl exHistory').bank "coll" "ujkl", bal (run exColl exHistory').bank "p3" "ujkl",
    (run exColl exHistory').collateral)
    = (12500000000, 20000000000, [("p1", 10000000000), ("p2", 2500000000)]) := by decide +kernel

end Canine.Storage
