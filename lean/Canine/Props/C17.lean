/-
C17 — Stored-file indexes and prover lists stay mutually consistent: the by-content and by-owner
listings contain exactly the same files with identical contents; a file's prover list has no
duplicates and never exceeds the replication limit; every listed prover has a retrievable record
that refers back to that file.  Preserved by every message and by the reward block.
-/
import Canine.Proofs.Index
import Canine.Proofs.QueryStorage
import Canine.Generated.KeyFacts
namespace Canine.Storage

/-- The invariant, spelled out (`IndexInv` and `FileOK` are defined in `Canine/Proofs/Index.lean`;
this is their verbatim unfolding). -/
theorem C17_IndexInv_iff (s : State) :
    IndexInv s ↔
      (AMap.WF s.files ∧ AMap.WF s.files2 ∧ AMap.WF s.proofs) ∧
      (∀ k, AMap.get s.files k = AMap.get s.files2 k) ∧
      (∀ k f, AMap.get s.files k = some f →
        f.key = k ∧ f.proofs.Nodup ∧ (f.proofs.length : Int) ≤ f.maxProofs ∧
        ∀ pk ∈ f.proofs, pk.2 = k ∧
          ∃ p, AMap.get s.proofs pk = some p ∧ p.prover = pk.1 ∧ (p.merkle, p.owner, p.start) = k) := by
  constructor
  · intro ⟨a, b, c, d, e⟩; exact ⟨⟨a, b, c⟩, d, e⟩
  · intro ⟨⟨a, b, c⟩, d, e⟩; exact ⟨a, b, c, d, e⟩

theorem C17_invariant_preserved_by_messages (s s' : State) (h now : Int) (op : Op)
    (hstep : step s h now op = some s') (hinv : IndexInv s) : IndexInv s' :=
  indexInv_step hstep hinv

/-- The whole BeginBlocker: dropping empty old files, removing failing provers and burning their
contracts, releasing gauges, paying provers. -/
theorem C17_invariant_preserved_by_reward_block (s s' : State) (h now : Int)
    (hblock : beginBlock s h now = .ok s') (hinv : IndexInv s) : IndexInv s' :=
  indexInv_beginBlock hblock hinv

theorem C17_along_histories_from (evs : List Ev) (s : State) (h : IndexInv s) :
    IndexInv (runEvs s evs) :=
  runEvs_inv IndexInv evs (fun _ _ _ _ _ _ hi hs => indexInv_step hs hi)
    (fun _ _ _ _ hi hb => indexInv_beginBlock hb hi) s h

/-- Along every history of messages and blocks from a state without files and records (the empty
genesis). -/
theorem C17_along_histories (evs : List Ev) (s0 : State) (h0 : emptyIdx s0) :
    IndexInv (runEvs s0 evs) :=
  C17_along_histories_from evs s0 (indexInv_empty h0)

/-- a file is found through the by-content listing iff it is found through the by-owner listing,
and then with identical contents -/
theorem C17_found_by_either_route (s : State) (hinv : IndexInv s) (k : FKey) (f : File) :
    AMap.get s.files k = some f ↔ AMap.get s.files2 k = some f := by
  rw [hinv.same k]

/-- the same as membership of the raw listings (what an iterator over either index sees) -/
theorem C17_listed_by_either_route (s : State) (hinv : IndexInv s) (k : FKey) (f : File) :
    (k, f) ∈ s.files ↔ (k, f) ∈ s.files2 := by
  rw [AMap.mem_iff_get_of_wf hinv.wfFiles, AMap.mem_iff_get_of_wf hinv.wfFiles2, hinv.same k]

theorem C17_each_file_listed_once (s : State) (hinv : IndexInv s) :
    (s.files.map (·.1)).Nodup ∧ (s.files2.map (·.1)).Nodup := ⟨hinv.wfFiles, hinv.wfFiles2⟩

theorem C17_no_duplicate_provers (s : State) (hinv : IndexInv s) (k : FKey) (f : File)
    (hf : AMap.get s.files k = some f) : f.proofs.Nodup := (hinv.ok k f hf).2.1

theorem C17_never_above_replication_limit (s : State) (hinv : IndexInv s) (k : FKey) (f : File)
    (hf : AMap.get s.files k = some f) : (f.proofs.length : Int) ≤ f.maxProofs := (hinv.ok k f hf).2.2.1

theorem C17_file_stored_under_its_key (s : State) (hinv : IndexInv s) (k : FKey) (f : File)
    (hf : AMap.get s.files k = some f) : (f.merkle, f.owner, f.start) = k := (hinv.ok k f hf).1

theorem C17_listed_prover_has_backreferencing_record (s : State) (hinv : IndexInv s) (k : FKey) (f : File)
    (hf : AMap.get s.files k = some f) (pk : PKey) (hpk : pk ∈ f.proofs) :
    pk.2 = k ∧ ∃ p, AMap.get s.proofs pk = some p ∧ p.prover = pk.1 ∧
      (p.merkle, p.owner, p.start) = (f.merkle, f.owner, f.start) := by
  rw [C17_file_stored_under_its_key s hinv k f hf]
  exact (hinv.ok k f hf).2.2.2 pk hpk

/-! ### The raw store keys cannot be aliased -/

/-- `%x/%s/%d/` on character lists -/
def primaryKey (m o d : List Char) : List Char := m ++ '/' :: (o ++ '/' :: (d ++ ['/']))
/-- `%s/%x/%d/` -/
def secondaryKey (o m d : List Char) : List Char := o ++ '/' :: (m ++ '/' :: (d ++ ['/']))

/-- If the components of a stored key are '/'-free (hex text, a
bech32 owner, a decimal number), a key built from *arbitrary* texts equals it only when all three
components are equal: crafted separators cannot make one file answer for another. -/
theorem C17_primaryKey_injective (m o d m' o' d' : List Char) (hm' : '/' ∉ m') (ho' : '/' ∉ o')
    (hd' : '/' ∉ d') (h : primaryKey m o d = primaryKey m' o' d') : m = m' ∧ o = o' ∧ d = d' :=
  three_fields_injective hm' ho' hd' h

theorem C17_secondaryKey_injective (o m d o' m' d' : List Char) (ho' : '/' ∉ o') (hm' : '/' ∉ m')
    (hd' : '/' ∉ d') (h : secondaryKey o m d = secondaryKey o' m' d') : o = o' ∧ m = m' ∧ d = d' :=
  three_fields_injective ho' hm' hd' h

/-- With the real `%d` rendering of the start height: two stored primary keys coincide only for
the same (hex, owner, height). -/
theorem C17_primaryKey_injective_int (m o m' o' : List Char) (st st' : Int) (hm' : '/' ∉ m')
    (ho' : '/' ∉ o') (h : primaryKey m o (decChars st) = primaryKey m' o' (decChars st')) :
    m = m' ∧ o = o' ∧ st = st' := by
  obtain ⟨a, b, c⟩ := three_fields_injective hm' ho' (slash_not_in_decChars st') h
  exact ⟨a, b, decChars_inj c⟩

theorem C17_secondaryKey_injective_int (o m o' m' : List Char) (st st' : Int) (ho' : '/' ∉ o')
    (hm' : '/' ∉ m') (h : secondaryKey o m (decChars st) = secondaryKey o' m' (decChars st')) :
    o = o' ∧ m = m' ∧ st = st' :=
  C17_primaryKey_injective_int o m o' m' st st' ho' hm' h

/-! ### Non-vacuity -/
namespace C17Ex

def exParams : Params :=
  { proofWindow := 50, checkWindow := 100, chunkSize := 1024, pricePerTbPerMonth := 8,
    collateralPrice := 1000, attestFormSize := 3, attestMinToPass := 2, referralCommission := 25,
    polRatio := 40 }

def exKey : FKey := ("aa", "owner", 7)

def exFile : File :=
  { merkle := "aa", owner := "owner", start := 7, expires := 0, fileSize := 100, proofInterval := 50,
    proofType := 0, proofs := [("p1", exKey), ("p2", exKey)], maxProofs := 3, note := "{}" }

def exRecord (prover : String) : Proof :=
  { prover := prover, merkle := "aa", owner := "owner", start := 7, lastProven := 8, chunkToProve := 0 }

/-- one file, two provers, their two records -/
def exState : State :=
  { files := [(exKey, exFile)], files2 := [(exKey, exFile)],
    proofs := [(("p1", exKey), exRecord "p1"), (("p2", exKey), exRecord "p2")],
    providers := [], payinfo := [], collateral := [], gauges := [], attests := [], reports := [],
    bank := [], params := exParams, moduleAcc := "storage", collateralAcc := "collateral",
    polAcc := "pol", feeAcc := "fee", blocked := [] }

example : IndexInv exState := by
  refine ⟨(by decide +kernel : (AMap.keys exState.files).Nodup),
    (by decide +kernel : (AMap.keys exState.files2).Nodup),
    (by decide +kernel : (AMap.keys exState.proofs).Nodup), fun _ => rfl,
    AMap.forall_set (m := []) (fun _ _ hf => nomatch hf)
      ⟨rfl, by decide +kernel, by decide +kernel, fun pk hpk => ?_⟩⟩
  rcases List.mem_cons.mp hpk with rfl | hpk
  · exact ⟨rfl, exRecord "p1", by decide +kernel, rfl, rfl⟩
  · rw [List.mem_singleton.mp hpk]
    exact ⟨rfl, exRecord "p2", by decide +kernel, rfl, rfl⟩

/-- the invariant is not trivially true: dropping one record breaks it -/
example : ¬ IndexInv { exState with proofs := [(("p1", exKey), exRecord "p1")] } := by
  intro h
  obtain ⟨_, _, _, k4⟩ := h.ok exKey exFile rfl
  obtain ⟨_, p, hp, _⟩ := k4 ("p2", exKey) (by decide +kernel)
  exact nomatch (show AMap.get [(("p1", exKey), exRecord "p1")] ("p2", exKey) = none by decide +kernel).symm.trans hp

/-- a third prover joins with a verified proof (the list grows to the limit 3); a fourth is refused -/
example : ((postProof exState 9 "p3" "aa" "owner" 7 0 true 5).state.files.map (fun kv => kv.2.proofs.length)) = [3] := by
  decide +kernel
example : ((postProof (postProof exState 9 "p3" "aa" "owner" 7 0 true 5).state 9 "p4" "aa" "owner" 7 0 true 5).success) = false := by
  decide +kernel

/-- a start state without files: only a storage plan for "owner" -/
def h0 : State :=
  { files := [], files2 := [], proofs := [], providers := [],
    payinfo := [("owner", { startT := 0, endT := 1000000, spaceAvailable := 1000000, spaceUsed := 0, address := "owner" })],
    collateral := [], gauges := [], attests := [], reports := [],
    bank := [], params := exParams, moduleAcc := "storage", collateralAcc := "collateral",
    polAcc := "pol", feeAcc := "fee", blocked := [] }

/-- the owner posts a file at height 7, p1 and p2 prove it, p1 proves again (not a new entry),
a block boundary passes -/
def hist : List Ev :=
  [ .msg 7 10 (.postFile "owner" "aa" 100 3 0 0 "{}" true 1 "" ""),
    .msg 8 11 (.postProof "p1" "aa" "owner" 7 0 true 5),
    .msg 9 12 (.postProof "p2" "aa" "owner" 7 0 true 6),
    .msg 9 12 (.postProof "p1" "aa" "owner" 7 5 true 6),
    .block 150 200 ]

example : emptyIdx h0 := ⟨rfl, rfl, rfl⟩
example : (runEvs h0 hist).files.map (fun kv => (kv.1, kv.2.proofs.map (·.1))) = [(("aa", "owner", 7), ["p1", "p2"])] := by
  decide +kernel

/-- the reward block's file management on that state: at height 100 both provers proved in the
last window and stay; at height 200 both are stale, are removed from the list and lose their
records (`C17_invariant_preserved_by_reward_block` covers both) -/
example :
    let s := runEvs h0 hist
    (s.files.foldl (fun (acc : State × Tracker) kv => manageFile acc.1 100 acc.2 kv.2) (s, [])).1.files.map
      (fun kv => kv.2.proofs.map (·.1)) = [["p1", "p2"]] := by decide +kernel
example :
    let s := runEvs h0 hist
    let s' := (s.files.foldl (fun (acc : State × Tracker) kv => manageFile acc.1 200 acc.2 kv.2) (s, [])).1
    s'.files.map (fun kv => kv.2.proofs.map (·.1)) = [[]] ∧ s'.proofs = [] ∧ s'.files2 = s'.files := by decide +kernel

end C17Ex

/-- The index-consistency theorems identify a file by (merkle, owner, start) and a proof by (prover, merkle, owner, start), which is sound only while the primary and secondary keys stay injective encodings of those tuples (`C17_primaryKey_injective_int`, `C17_secondaryKey_injective_int`; the proof keys: `SI.rawInv_of_slashFree`, Proofs/GenesisStorageInv.lean).  Fingerprints of the key constructors of x/storage/types/key*.go
the model assumes; `Generated.keyFns_storage` is recomputed from the source on every
run (the declarations are listed in Generated/KeyFacts.lean). -/
def C17_expectedKeys : List (String × String) := [
  ("x/storage/types/key_client_usage.go:var _…", "9f4fce2c5ae85adc"),
  ("x/storage/types/key_client_usage.go:const ClientUsageKeyPrefix…", "5b1d441d06f4cc71"),
  ("x/storage/types/key_client_usage.go:ClientUsageKey", "dc7228a1f094ec09"),
  ("x/storage/types/key_files.go:var _…", "9f4fce2c5ae85adc"),
  ("x/storage/types/key_files.go:const FileSecondaryKeyPrefix…", "c2b8a0b2f787cc2c"),
  ("x/storage/types/key_files.go:FilesPrimaryKey", "84e99d172d986bcc"),
  ("x/storage/types/key_files.go:FilesMerklePrefix", "7144d5ed970c299c"),
  ("x/storage/types/key_files.go:FilesOwnerPrefix", "b5fae699da92120b"),
  ("x/storage/types/key_files.go:FilesSecondaryKey", "8701eb75a36b1a59"),
  ("x/storage/types/key_files.go:ProofKey", "03b9d69bfd1ff699"),
  ("x/storage/types/key_files.go:ProofPrefix", "c8769268c3e52544"),
  ("x/storage/types/key_files.go:LegacyActiveDealsKey", "c4aeb0f020bffe73"),
  ("x/storage/types/key_pay_blocks.go:var _…", "9f4fce2c5ae85adc"),
  ("x/storage/types/key_pay_blocks.go:const PayBlocksKeyPrefix…", "1cab8528a038c882"),
  ("x/storage/types/key_pay_blocks.go:PayBlocksKey", "77839ff6b75370dd"),
  ("x/storage/types/key_payment_info.go:var _…", "9f4fce2c5ae85adc"),
  ("x/storage/types/key_payment_info.go:const StoragePaymentInfoKeyPrefix…", "abad45a51db5951d"),
  ("x/storage/types/key_payment_info.go:StoragePaymentInfoKey", "9176a7b3606c44ef"),
  ("x/storage/types/key_payment_info.go:PaymentGaugeKey", "671fc2de1ec35857"),
  ("x/storage/types/key_providers.go:var _…", "9f4fce2c5ae85adc"),
  ("x/storage/types/key_providers.go:const ProvidersKeyPrefix…", "9d7e274422e734eb"),
  ("x/storage/types/key_providers.go:ActiveProvidersKey", "c7775e72ba0d9346"),
  ("x/storage/types/key_providers.go:ProvidersKey", "dbb47435d90d275b"),
  ("x/storage/types/key_providers.go:AttestationKey", "22260edd874149f9"),
  ("x/storage/types/key_providers.go:ReportKey", "9e44430f7ad376b5"),
  ("x/storage/types/key_providers.go:CollateralKey", "63d6996a6cf1539e"),
  ("x/storage/types/keys.go:const ModuleName…", "05fb6d7b8d5c103c"),
  ("x/storage/types/keys.go:gaugeName", "6c707ddfcf503004"),
  ("x/storage/types/keys.go:GetGaugeAccount", "2648a826edaadd84"),
  ("x/storage/types/keys.go:KeyPrefix", "caccc65e7667915d")]

theorem C17_store_keys_as_modelled : Generated.keyFns_storage = C17_expectedKeys := rfl

/-! ### The listings as clients read them (gRPC query server, `query.Paginate`) -/

open Canine.Query Canine.Storage.Query in
/-- On every state satisfying
the index invariant (all reachable states: `C17_along_histories`), whatever page size a client
uses, following `NextKey` through `AllFiles`, through `AllFilesByOwner` for the file's owner and
through `AllFilesByMerkle` for its merkle root each returns the file, with the contents the
by-content index holds.  (`hraw…`: the raw keys of a store are distinct — physically so.) -/
theorem C17_every_file_listed_by_each_route (s : State) (hinv : IndexInv s) (k : FKey) (f : File)
    (limit fuel : Nat) (hk : AMap.get s.files k = some f)
    (hraw1 : (s.files.map (fun kv => fileKeyStr kv.1)).Nodup)
    (hraw2 : (s.files2.map (fun kv => fileKey2Str kv.1)).Nodup)
    (hf1 : s.files.length + 1 ≤ fuel) (hf2 : s.files2.length + 1 ≤ fuel) :
    (∃ l, walk (primaryEntries s) limit false fuel none [] = some l ∧ f ∈ l) ∧
    (∃ l, walk (underPrefix (secondaryEntries s) k.2.1) limit false fuel none [] = some l ∧ f ∈ l) ∧
    (∃ l, walk (underPrefix (primaryEntries s) k.1) limit false fuel none [] = some l ∧ f ∈ l) := by
  have hm1 : (k, f) ∈ s.files := AMap.mem_of_get hk
  have hm2 : (k, f) ∈ s.files2 := AMap.mem_of_get (by rw [← hinv.same k]; exact hk)
  refine ⟨?_, ?_, ?_⟩
  · obtain ⟨l, hl, hmem⟩ := walk_allFiles s limit fuel hraw1 hf1
    exact ⟨l, hl, (hmem f).mpr (List.mem_map.mpr ⟨(k, f), hm1, rfl⟩)⟩
  · obtain ⟨l, hl, hin, _⟩ := walk_allFilesByOwner s k.2.1 limit fuel hraw2 hf2
    exact ⟨l, hl, hin k f hm2 rfl⟩
  · obtain ⟨l, hl, hin, _⟩ := walk_allFilesByMerkle s k.1 limit fuel hraw1 hf1
    exact ⟨l, hl, hin k f hm1 rfl⟩

open Canine.Query Canine.Storage.Query in
/-- The listings contain nothing else: `AllFiles` paged through returns exactly the by-content
index. -/
theorem C17_allFiles_lists_exactly_the_index (s : State) (limit fuel : Nat)
    (hraw : (s.files.map (fun kv => fileKeyStr kv.1)).Nodup) (hf : s.files.length + 1 ≤ fuel) :
    ∃ l, walk (primaryEntries s) limit false fuel none [] = some l ∧ ∀ f, f ∈ l ↔ f ∈ s.files.map (·.2) :=
  walk_allFiles s limit fuel hraw hf

open Canine.Query Canine.Storage.Query in
/-- every listed prover's record is retrievable through `ProofsByAddress` of that prover -/
theorem C17_listed_prover_record_listed (s : State) (hinv : IndexInv s) (k : FKey) (f : File) (pk : PKey)
    (limit fuel : Nat) (hk : AMap.get s.files k = some f) (hpk : pk ∈ f.proofs)
    (hraw : (s.proofs.map (fun kv => proofKeyStr kv.1)).Nodup) (hf : s.proofs.length + 1 ≤ fuel) :
    ∃ l p, walk (underPrefix (proofEntries s) pk.1) limit false fuel none [] = some l ∧ p ∈ l ∧
      AMap.get s.proofs pk = some p := by
  obtain ⟨_, _, _, h4⟩ := hinv.ok k f hk
  obtain ⟨_, p, hp, _⟩ := h4 pk hpk
  obtain ⟨l, hl, hin⟩ := walk_proofsByAddress s pk.1 limit fuel hraw hf
  exact ⟨l, p, hl, hin pk p (AMap.mem_of_get hp) rfl, hp⟩

end Canine.Storage
