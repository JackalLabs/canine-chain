/-
C12 — Payment gauges stream linearly and never release more than the pro-rata deposit:
the statement **along whole executions of the storage model** (messages and reward blocks).

`Props/C12.lean` proves the arithmetic of one gauge for an arbitrary sequence of reward times.  Here
the same bound is a theorem about every state the storage model reaches: the gauge invariant
`GaugeInv` of `Proofs/GaugeInv*.lean` (kept by every message and every reward block,
`C05_invariants_along_histories`) says, gauge by gauge, that what has left the escrow account so far
is at most the elapsed fraction of the gauge's duration applied to the recorded deposit — in the exact
`sdk.Dec` arithmetic of `pullTokensFromGauges` — hence at most its truncation (whole base units) and
at most the deposit; and every stored gauge has started.  Histories (`runB`, `HistOk`) are those of
`Props/C05.lean`.
-/
import Canine.Props.C05
import Canine.Proofs.GaugeExactBlock
import Canine.Proofs.GaugeExactMsg
namespace Canine.Storage
open Bank GI

/-- what has left the escrow of gauge `g` in denomination `d` when `A` is the recorded deposit -/
def withdrawn (b : Bank) (g : Gauge) (d : String) (A : Int) : Int := A - bal b g.account d

/-- **C12, histories.**  After any history of messages and reward blocks that
satisfies the side conditions `HistOk` (block times non-decreasing, no message signed by an escrow
account, escrow accounts derived injectively from gauge ids), from any state satisfying the
invariants (e.g. genesis), every stored gauge that has not ended has, per recorded coin:
* started (`startT ≤ now`),
* released at most `trunc(ratio(now) · A)` — the elapsed fraction of its duration in whole
  microseconds applied to the recorded deposit, rounded down — and
* released at most the deposit `A`.
Third-party transfers *into* an escrow account only lower `withdrawn` and are allowed. -/
theorem C12_never_ahead_of_schedule_along_histories (E : EscrowScheme)
    (hist : List (Int × Int × BEv)) (s s' : State) (t0 : Int)
    (hinv : NoPanicInv s) (hg : GaugeInv E s t0) (hh : HistOk E s t0 hist) (hr : runB s hist = some s') :
    ∀ kv ∈ s'.gauges, kv.2.startT ≤ lastTime t0 hist ∧
      (lastTime t0 hist ≤ kv.2.endT → ∀ c ∈ kv.2.coins,
        withdrawn s'.bank kv.2 c.1 c.2 ≤ Dec.trunc (would kv.2.startT kv.2.endT (lastTime t0 hist) c.2) ∧
        withdrawn s'.bank kv.2 c.1 c.2 ≤ c.2) := by
  intro kv hkv
  have hok := (C05_invariants_along_histories E hist s s' t0 hinv hg hh hr).2.ok kv hkv
  exact ⟨hok.started, fun hend c hc => ⟨hok.released_le hend hc,
    Int.le_trans (hok.released_le hend hc) (trunc_would_le (hok.live hend) (hok.coins.nonneg c hc))⟩⟩

theorem nothing_released_when_started_now {E : EscrowScheme} {s : State} {t : Int} (hg : GaugeInv E s t) :
    ∀ kv ∈ s.gauges, kv.2.startT = t → ∀ c ∈ kv.2.coins, withdrawn s.bank kv.2 c.1 c.2 ≤ 0 := by
  intro kv hkv hT c hc
  subst hT
  exact (hg.ok kv hkv).released_at_start hc

/-- **C12, histories.**  A gauge at its own start time has released
nothing: the schedule value at `startT` is zero, so `withdrawn ≤ 0`.  (The hypothesis speaks of all
stored gauges at once and so of states whose gauges share one start time;
`nothing_released_when_started_now` is the statement per gauge.) -/
theorem C12_nothing_released_at_start (E : EscrowScheme) (s : State) (hg : ∀ kv ∈ s.gauges, GaugeInv E s kv.2.startT) :
    ∀ kv ∈ s.gauges, ∀ c ∈ kv.2.coins, withdrawn s.bank kv.2 c.1 c.2 ≤ 0 :=
  fun kv hkv => nothing_released_when_started_now (hg kv hkv) kv hkv rfl

/-- non-vacuity: the concrete two-purchase, two-reward-block history of `Props/C05.lean` satisfies
the hypotheses, and the bound is about its final state -/
example : ∃ s', runB exS0 exHist = some s' ∧
    ∀ kv ∈ s'.gauges, kv.2.startT ≤ lastTime exT0 exHist :=
  ⟨_, exRun, fun kv hkv =>
    (C12_never_ahead_of_schedule_along_histories exE exHist exS0 _ exT0 exHyps.1 exHyps.2.1 exHyps.2.2 exRun kv hkv).1⟩

end Canine.Storage

/-! ## C12 along whole executions: the equality, monotonicity, nothing outside the interval

The bound above is an inequality because anybody may *credit* an escrow account.  Under the hypothesis
that nobody does (`NoCreditAlong`), the strengthened invariant `GaugeExact` of
`Proofs/GaugeExact{Def,Block,Msg}.lean` holds along every history: for every stored gauge there is an
instant `t'` of its life, not after the current time — the time of the last reward block that visited
it, or its start time — with `A − bal = Dec.trunc (would startT endT t' A)` per recorded coin.

**The side condition `NoCreditAlong`** (nothing about amounts, ratios or decimals):
* per message, `NoCredit`: the POL account, the fee account and the referrer a `buyStorage` pays are not
  escrow accounts of stored gauges or of the gauge being created; and the escrow account of a gauge
  that is about to be *created* is not the signer and holds no ujkl yet;
* per reward block, `BlockNoCredit`: none of the provers the block pays is the escrow account of a
  stored gauge.
All other credits of the storage module go to the module account, the collateral account
(`GaugeInv.accNe`), a signer (`MsgOk.signer`), or are the deposit that creates / tops up the gauge.
Each condition is benign: an escrow account is `E.accOf id`, a hash-derived address for which nobody
holds a key, and the chain's id contains the block height, so an id is not re-used once its gauge has
been removed.  Paying such an address on purpose only delays the stream: `A − bal` drops below the
schedule, `C12_never_ahead_of_schedule_along_histories` still holds, and the next reward block releases
the surplus too (`C12_released_equals_schedule_after_reward_block` needs `BlockNoCredit` of that one
block only).

**`would` is the closed form of `Props/C12.lean`.**  `GI.would startT endT now A` is by definition
`Dec.mul (GI.ratioAt startT endT now) (Dec.ofInt A)`, and `GI.ratioAt` is `1 − quoRaw left total` with
`left = tdiv endT 1000 − tdiv now 1000`, `total = tdiv endT 1000 − tdiv startT 1000` (whole
microseconds of the instants): `Dec.trunc (would …)` is `trunc(ratio·A)`, the `cumulative` of
`C12_release_formula` in `Props/C12.lean` (`C12_schedule_is_truncated_ratio` below). -/
namespace Canine.Storage
open Bank GI

/-- no outside credit along a history: `NoCredit` for every message, `BlockNoCredit` for every
block, each in the state it is applied to. -/
def NoCreditAlong (s : State) : List (Int × Int × BEv) → Prop
  | [] => True
  | (h, now, .msg op) :: rest => NoCredit s op ∧ NoCreditAlong (stepT s h now op) rest
  | (h, now, .block) :: rest => BlockNoCredit s h ∧ ∀ s', beginBlock s h now = .ok s' → NoCreditAlong s' rest

/-- the schedule value is the elapsed fraction (as `pullTokensFromGauges` computes it with `sdk.Dec`)
applied to the deposit, truncated -/
theorem C12_schedule_is_truncated_ratio (startT endT now A : Int)
    (hT : Int.tdiv endT 1000 - Int.tdiv startT 1000 ≠ 0) :
    ∃ q, Dec.quo? (Dec.ofInt (Int.tdiv endT 1000 - Int.tdiv now 1000))
            (Dec.ofInt (Int.tdiv endT 1000 - Int.tdiv startT 1000)) = some q ∧
      Dec.trunc (would startT endT now A) = Dec.trunc (Dec.mul (Dec.sub Dec.one q) (Dec.ofInt A)) := by
  obtain ⟨q, hq, hr⟩ := quo_ratioAt startT endT now hT
  exact ⟨q, hq, by rw [hr]; rfl⟩

/-- The exact invariant along a history that satisfies `HistOk` and `NoCreditAlong`, together with any
property `P` of state and time that a message or reward block at a later time `now` re-establishes
for `now`. -/
theorem exact_along (E : EscrowScheme) (P : State → Int → Prop)
    (hmsg : ∀ s t h now op, t ≤ now → GaugeExact E s now → MsgOk E s now op → NoCredit s op → P s t →
      P (stepT s h now op) now)
    (hblk : ∀ s s' t h now, t ≤ now → GaugeExact E s now → BlockNoCredit s h → beginBlock s h now = .ok s' →
      P s t → P s' now) :
    ∀ (hist : List (Int × Int × BEv)) (s s' : State) (t0 : Int),
      GaugeExact E s t0 → HistOk E s t0 hist → NoCreditAlong s hist → runB s hist = some s' →
      P s t0 → GaugeExact E s' (lastTime t0 hist) ∧ P s' (lastTime t0 hist) := by
  intro hist
  induction hist with
  | nil => intro s s' _ hg _ _ hr hp; cases hr; exact ⟨hg, hp⟩
  | cons ev rest ih =>
    obtain ⟨h, now, ev⟩ := ev
    intro s s' t0 hg hh hn hr hp
    cases ev with
    | msg op =>
      have hg := hg.advance hh.1
      exact ih _ s' now (stepT_gaugeExact hg hh.2.1 hn.1) hh.2.2 hn.2 hr (hmsg s t0 h now op hh.1 hg hh.2.1 hn.1 hp)
    | block =>
      have hg := hg.advance hh.1
      obtain ⟨s1, hb, hr⟩ := runB_block hr
      exact ih s1 s' now (beginBlock_gaugeExact hg hn.1 hb) (hh.2 s1 hb) (hn.2 s1 hb) hr
        (hblk s s1 t0 h now hh.1 hg hn.1 hb hp)

/-- **C12, histories.**  The exact invariant holds along every history that satisfies `HistOk` and
`NoCreditAlong`, from any state satisfying the invariants. -/
theorem C12_gaugeExact_along_histories (E : EscrowScheme) :
    ∀ (hist : List (Int × Int × BEv)) (s s' : State) (t0 : Int),
      NoPanicInv s → GaugeExact E s t0 → HistOk E s t0 hist → NoCreditAlong s hist → runB s hist = some s' →
      NoPanicInv s' ∧ GaugeExact E s' (lastTime t0 hist) :=
  fun hist s s' t0 hinv hg hh hn hr =>
    ⟨C05_noPanicInv_along_histories hist s s' hinv hr,
     (exact_along E (fun _ _ => True) (fun _ _ _ _ _ _ _ _ _ _ => trivial) (fun _ _ _ _ _ _ _ _ _ _ => trivial)
       hist s s' t0 hg hh hn hr trivial).1⟩

theorem C12_gaugeExact_genesis (E : EscrowScheme) (s : State) (t : Int) (hG : s.gauges = [])
    (hnn : ∀ kv ∈ s.bank, 0 ≤ kv.2) (hsup : ∀ d, supply s.bank d ≤ I64.maxV) : GaugeExact E s t :=
  GaugeExact.init E s t hG ⟨hnn, hsup⟩

theorem hist_split (E : EscrowScheme) :
    ∀ (pre post : List (Int × Int × BEv)) (s : State) (t0 : Int),
      HistOk E s t0 (pre ++ post) → NoCreditAlong s (pre ++ post) →
      HistOk E s t0 pre ∧ NoCreditAlong s pre ∧
      ∀ s1, runB s pre = some s1 → HistOk E s1 (lastTime t0 pre) post ∧ NoCreditAlong s1 post := by
  intro pre post
  induction pre with
  | nil => exact fun _ _ hh hn => ⟨trivial, trivial, fun _ hr => by cases hr; exact ⟨hh, hn⟩⟩
  | cons ev pre ih =>
    obtain ⟨h, now, ev⟩ := ev
    intro s t0 hh hn
    cases ev with
    | msg op =>
      obtain ⟨i1, i2, i3⟩ := ih _ now hh.2.2 hn.2
      exact ⟨⟨hh.1, hh.2.1, i1⟩, ⟨hn.1, i2⟩, i3⟩
    | block =>
      have ih' := fun s' hb => ih s' now (hh.2 s' hb) (hn.2 s' hb)
      refine ⟨⟨hh.1, fun s' hb => (ih' s' hb).1⟩, ⟨hn.1, fun s' hb => (ih' s' hb).2.1⟩, fun s1 hr => ?_⟩
      obtain ⟨s', hb, hr⟩ := runB_block hr
      exact (ih' s' hb).2.2 s1 hr

/-- **C12, one reward block.**  Take a state satisfying the invariants
(`GaugeInv` — the upper bound — suffices: earlier credits to escrow accounts are allowed) and a reward
block at time `now` whose reward path runs (`h` is a multiple of the check window) and whose payouts
credit no escrow account.  Afterwards every stored gauge is live (`startT ≤ now ≤ endT`) and, per
recorded coin, what has left its escrow account is exactly `trunc(ratio(now)·A)`. -/
theorem C12_released_equals_schedule_after_reward_block (E : EscrowScheme) (s s' : State) (h t now : Int)
    (hinv : NoPanicInv s) (hg : GaugeInv E s t) (ht : t ≤ now) (hnc : BlockNoCredit s h)
    (hrun : ¬ Int.tmod h s.params.checkWindow > 0) (hb : beginBlock s h now = .ok s') :
    ∀ kv ∈ s'.gauges, kv.2.startT ≤ now ∧ now ≤ kv.2.endT ∧ ∀ c ∈ kv.2.coins,
      withdrawn s'.bank kv.2 c.1 c.2 = Dec.trunc (would kv.2.startT kv.2.endT now c.2) := by
  have fx := beginBlock_fx (hg.advance ht) hnc hrun hb
  exact fun kv hkv => ⟨((hg.advance ht).ok kv (fx.sub kv hkv)).started, fx.live kv hkv⟩

theorem at_block (E : EscrowScheme) {pre post : List (Int × Int × BEv)} {h now : Int} {s : State} {t0 : Int}
    (hinv : NoPanicInv s) (hg : GaugeInv E s t0)
    (hh : HistOk E s t0 (pre ++ (h, now, .block) :: post))
    (hn : NoCreditAlong s (pre ++ (h, now, .block) :: post)) :
    ∃ s1 s2, runB s pre = some s1 ∧ beginBlock s1 h now = .ok s2 ∧
      NoPanicInv s1 ∧ GaugeInv E s1 now ∧ BlockNoCredit s1 h := by
  obtain ⟨hpre, _, hpost⟩ := hist_split E pre _ s t0 hh hn
  obtain ⟨s1, hr1, hinv1, hg1⟩ := hist_invariants E pre s t0 hinv hg hpre
  obtain ⟨⟨ht, _⟩, hnc, _⟩ := hpost s1 hr1
  obtain ⟨s2, hb⟩ := C05_beginBlock_never_panics s1 h now hinv1 (hg1.advance ht).gaugesSafe
  exact ⟨s1, s2, hr1, hb, hinv1, hg1.advance ht, hnc⟩

/-- **C12, histories.**  For every history satisfying `HistOk` and
`NoCreditAlong`, from a state satisfying the invariants (e.g. genesis), at every block event
`(h, now, block)` of it: the history up to it runs (to `s1`), the block does not panic (giving `s2`),
and if the reward path runs at this height, then immediately afterwards every stored gauge is live and
its cumulative release `A − bal` equals `Dec.trunc (would startT endT now A)` — the elapsed fraction of
its duration, in whole microseconds, applied to the recorded deposit, rounded down — per recorded
coin. -/
theorem C12_released_equals_schedule_at_reward_blocks_along_histories (E : EscrowScheme)
    (pre post : List (Int × Int × BEv)) (h now : Int) (s : State) (t0 : Int)
    (hinv : NoPanicInv s) (hg : GaugeInv E s t0)
    (hh : HistOk E s t0 (pre ++ (h, now, .block) :: post))
    (hn : NoCreditAlong s (pre ++ (h, now, .block) :: post)) :
    ∃ s1 s2, runB s pre = some s1 ∧ beginBlock s1 h now = .ok s2 ∧
      (¬ Int.tmod h s1.params.checkWindow > 0 →
        ∀ kv ∈ s2.gauges, kv.2.startT ≤ now ∧ now ≤ kv.2.endT ∧ ∀ c ∈ kv.2.coins,
          withdrawn s2.bank kv.2 c.1 c.2 = Dec.trunc (would kv.2.startT kv.2.endT now c.2)) := by
  obtain ⟨s1, s2, hr1, hb, hinv1, hg1, hnc⟩ := at_block E hinv hg hh hn
  exact ⟨s1, s2, hr1, hb, fun hrun =>
    C12_released_equals_schedule_after_reward_block E s1 s2 h now now hinv1 hg1 (Int.le_refl _) hnc hrun hb⟩

/-- **C12, histories.**  At every block event
`(h, now, block)` of such a history (notation as above):
* no gauge with `startT > now` is stored, before or after the block;
* if the reward path runs, a stored gauge with `endT < now` is removed from the store (no gauge with
  its id is stored afterwards) and **no balance of its escrow account changes**: nothing is released
  from it, and whatever was still in escrow stays there — the model (like the chain) never moves it
  again, since only `pullTokensFromGauges` on a *stored* gauge debits an escrow account. -/
theorem C12_nothing_released_outside_interval_along_histories (E : EscrowScheme)
    (pre post : List (Int × Int × BEv)) (h now : Int) (s : State) (t0 : Int)
    (hinv : NoPanicInv s) (hg : GaugeInv E s t0)
    (hh : HistOk E s t0 (pre ++ (h, now, .block) :: post))
    (hn : NoCreditAlong s (pre ++ (h, now, .block) :: post)) :
    ∃ s1 s2, runB s pre = some s1 ∧ beginBlock s1 h now = .ok s2 ∧
      (∀ kv ∈ s1.gauges, kv.2.startT ≤ now) ∧ (∀ kv ∈ s2.gauges, kv.2.startT ≤ now) ∧
      (¬ Int.tmod h s1.params.checkWindow > 0 → ∀ kv ∈ s1.gauges, kv.2.endT < now →
        AMap.get s2.gauges kv.1 = none ∧ ∀ d, bal s2.bank kv.2.account d = bal s1.bank kv.2.account d) := by
  obtain ⟨s1, s2, hr1, hb, _, hg1, hnc⟩ := at_block E hinv hg hh hn
  refine ⟨s1, s2, hr1, hb, fun kv hkv => (hg1.ok kv hkv).started,
    fun kv hkv => ((beginBlock_inv hg1 hb).ok kv hkv).started, fun hrun kv hkv hend => ?_⟩
  have fx := beginBlock_fx hg1 hnc hrun hb
  refine ⟨?_, fx.frozen kv hkv (Or.inl hend)⟩
  cases hget : AMap.get s2.gauges kv.1 with
  | none => rfl
  | some g' =>
    -- a gauge stored afterwards under this id is this gauge, and it has not ended
    have hm2 := AMap.mem_of_get hget
    have hl := (fx.live _ hm2).1
    rw [AMap.wf_unique hg1.wf (fx.sub _ hm2) hkv rfl] at hl
    omega

/-- `R` is a lower bound of what the gauge with id `k` and start time `T` has released, as seen at
time `t`: of what it has released if it is stored, and if it could still be created (`t ≤ T`) then of
zero -/
def ReleasedAtLeast (k : String) (T R : Int) (s : State) (t : Int) : Prop :=
  (t ≤ T → R ≤ 0) ∧
  ∀ kv ∈ s.gauges, kv.1 = k → kv.2.startT = T → ∀ c ∈ kv.2.coins, R ≤ withdrawn s.bank kv.2 c.1 c.2

/-- a lower bound of what a gauge has released stays one along every history -/
theorem released_mono_core (E : EscrowScheme) (k : String) (T R : Int)
    (mid : List (Int × Int × BEv)) (s s2 : State) (t : Int)
    (hg : GaugeExact E s t) (hh : HistOk E s t mid) (hn : NoCreditAlong s mid)
    (hr : runB s mid = some s2) (hR : ReleasedAtLeast k T R s t) :
    ReleasedAtLeast k T R s2 (lastTime t mid) := by
  refine (exact_along E (ReleasedAtLeast k T R) ?_ ?_ mid s s2 t hg hh hn hr hR).2
  · -- a message: the gauge keeps its escrow balances, or starts now with nothing released
    rintro s t h now op ht hg hok hnc ⟨hz, hm⟩
    refine ⟨fun hle => hz (by omega), fun kv hkv hk hT c hc => ?_⟩
    unfold withdrawn
    rcases stepT_fx (h := h) hg hok hnc kv hkv with ⟨hmem, hbal⟩ | ⟨f1, _, f3, _⟩
    · rw [hbal]; exact hm kv hmem hk hT c hc
    · rw [f3 c hc]; exact hz (by omega)
  · rintro s s' t h now ht hg hnc hb ⟨hz, hm⟩
    refine ⟨fun hle => hz (by omega), fun kv hkv hk hT c hc => ?_⟩
    obtain ⟨hmem, hle⟩ := beginBlock_released_mono hg hnc hb kv hkv
    exact Int.le_trans (hm kv hmem hk hT c hc) (hle c hc)

/-- **C12, histories.**  Take two states of a history that
satisfies `HistOk` and `NoCreditAlong` from a state satisfying the invariants: `s1` after `pre`, `s2`
after `pre ++ mid`.  A gauge stored in both — the same id and the same start time, which identifies a
gauge even if the id oracle of the model re-issued the id of a removed gauge later — has, per
denomination, released at `s2` at least what it had released at `s1`.  (A same-block deposit into the
gauge in between changes its recorded amount and end, not this: both sides are then 0.) -/
theorem C12_cumulative_release_nondecreasing_along_histories (E : EscrowScheme)
    (pre mid : List (Int × Int × BEv)) (s s1 s2 : State) (t0 : Int)
    (hinv : NoPanicInv s) (hg : GaugeExact E s t0)
    (hh : HistOk E s t0 (pre ++ mid)) (hn : NoCreditAlong s (pre ++ mid))
    (hr1 : runB s pre = some s1) (hr2 : runB s1 mid = some s2) :
    ∀ kv1 ∈ s1.gauges, ∀ kv2 ∈ s2.gauges, kv1.1 = kv2.1 → kv1.2.startT = kv2.2.startT →
      ∀ c1 ∈ kv1.2.coins, ∀ c2 ∈ kv2.2.coins, c1.1 = c2.1 →
        withdrawn s1.bank kv1.2 c1.1 c1.2 ≤ withdrawn s2.bank kv2.2 c2.1 c2.2 := by
  obtain ⟨hpre, hnpre, hpost⟩ := hist_split E pre mid s t0 hh hn
  obtain ⟨hh1, hn1⟩ := hpost s1 hr1
  obtain ⟨-, hg1⟩ := C12_gaugeExact_along_histories E pre s s1 t0 hinv hg hpre hnpre hr1
  intro kv1 hkv1 kv2 hkv2 hk hT c1 hc1 c2 hc2 _
  have hok1 := hg1.inv.ok kv1 hkv1
  refine (released_mono_core E kv1.1 kv1.2.startT (withdrawn s1.bank kv1.2 c1.1 c1.2) mid s1 s2 _
    hg1 hh1 hn1 hr2 ⟨fun hle => ?_, fun kv hkv hk' _ c hc => ?_⟩).2 kv2 hkv2 hk.symm hT.symm c2 hc2
  · -- seen at its own start time, the gauge has released nothing
    exact nothing_released_when_started_now hg1.inv kv1 hkv1 (Int.le_antisymm hok1.started hle) c1 hc1
  · -- an id is stored once, and a gauge records at most one coin
    cases AMap.wf_unique hg1.inv.wf hkv hkv1 hk'
    cases hok1.coins.unique hc hc1
    exact Int.le_refl _

end Canine.Storage

/-! ### non-vacuity: the concrete history of `Props/C05.lean`

`exHist`: alice and bob buy the same plan in the same block (one gauge "g1" recording
4666666 + 4666666 = 9333332 ujkl, all of it in escrow "esc/g1"), then two reward blocks one and two days
later (heights 3 and 6, check window 3).  The hypotheses of the theorems above hold for it, and the
released amounts are exactly 1/30 and 2/30 of the deposit, rounded down. -/
namespace Canine.Storage
open Bank GI

/-- the merged gauge of the example -/
def exG2 : Gauge := { exG with coins := [("ujkl", 9333332)] }

theorem noCredit_buyStorage {s : State} {c fa : String} {dd b : Int} {dn : String} {ref : Option String} {jp : Int}
    {gid gacc : String}
    (hp : ∀ a ∈ [s.polAcc, s.feeAcc] ++ ref.toList, (∀ kv ∈ s.gauges, a ≠ kv.2.account) ∧ a ≠ gacc)
    (hf : AMap.get s.gauges gid = none → c ≠ gacc ∧ bal s.bank gacc "ujkl" = 0) :
    NoCredit s (.buyStorage c fa dd b dn ref jp gid gacc) :=
  ⟨fun a ha => ⟨(hp a ha).1, fun _ _ hop => by cases hop; exact (hp a ha).2⟩,
   fun _ _ hop => by cases hop; exact hf⟩

/-- `NoCreditAlong` holds for the example: the POL and fee accounts are not "esc/g1", the escrow
account is empty before the first purchase, no prover is paid. -/
theorem exNoCredit : NoCreditAlong exS0 exHist := by
  simp only [exHist, NoCreditAlong, exStep, exStep2]
  refine ⟨noCredit_buyStorage (by decide +kernel) (by decide +kernel),
    noCredit_buyStorage (by decide +kernel) (by decide +kernel),
    show ∀ pw ∈ blockTracker exS2 3, ∀ kv ∈ exS2.gauges, pw.1 ≠ kv.2.account from by decide +kernel,
    fun s' hb => ⟨?_, fun _ _ => trivial⟩⟩
  rw [exBlock1] at hb; cases hb
  exact show ∀ pw ∈ blockTracker (exSt 311113 9022221) 6, ∀ kv ∈ (exSt 311113 9022221).gauges,
    pw.1 ≠ kv.2.account from by decide +kernel

/-- the exact invariant holds at genesis of the example, hence (by the theorem) at its end -/
example : GaugeExact exE (exSt 622224 8711110) (exT0 + 2 * dayNs) :=
  (C12_gaugeExact_along_histories exE exHist exS0 _ exT0 exHyps.1
    (GaugeExact.init exE exS0 exT0 rfl exHyps.2.1.bank) exHyps.2.2 exNoCredit exRun).2

/-- after the first reward block (one day of thirty): the theorem applies — its hypotheses hold,
the reward path runs at height 3 — and says the gauge has released exactly `trunc(ratio·A)` -/
example : ∀ kv ∈ (exSt 311113 9022221).gauges, kv.2.startT ≤ exT0 + dayNs ∧ exT0 + dayNs ≤ kv.2.endT ∧
    ∀ c ∈ kv.2.coins, withdrawn (exSt 311113 9022221).bank kv.2 c.1 c.2
      = Dec.trunc (would kv.2.startT kv.2.endT (exT0 + dayNs) c.2) := by
  obtain ⟨s1, s2, h1, h2, h3⟩ := C12_released_equals_schedule_at_reward_blocks_along_histories exE
    [(2, exT0, .msg exOp), (2, exT0, .msg exOp2)] [(6, exT0 + 2 * dayNs, .block)] 3 (exT0 + dayNs) exS0 exT0
    exHyps.1 exHyps.2.1 exHyps.2.2 exNoCredit
  rw [runB, exStep, runB, exStep2] at h1
  cases h1
  rw [exBlock1] at h2; cases h2
  exact h3 (by decide)

/-- the exact amounts: 311111 = ⌊9333332/30⌋ after the first reward block, 622222 =
⌊2·9333332/30⌋ after the second, both equal to the schedule value `Dec.trunc (would …)`. -/
example :
    (exSt 311113 9022221).gauges = [("g1", exG2)] ∧ (exSt 622224 8711110).gauges = [("g1", exG2)] ∧
    withdrawn (exSt 311113 9022221).bank exG2 "ujkl" 9333332 = 311111 ∧
    Dec.trunc (would exG2.startT exG2.endT (exT0 + dayNs) 9333332) = 311111 ∧
    withdrawn (exSt 622224 8711110).bank exG2 "ujkl" 9333332 = 622222 ∧
    Dec.trunc (would exG2.startT exG2.endT (exT0 + 2 * dayNs) 9333332) = 622222 := by
  decide +kernel

/-- monotonicity on the example: between the states after the first and after the second reward
block (311111 ≤ 622222), as an instance of the theorem -/
example : ∀ c1 ∈ exG2.coins, ∀ c2 ∈ exG2.coins, c1.1 = c2.1 →
    withdrawn (exSt 311113 9022221).bank exG2 c1.1 c1.2 ≤ withdrawn (exSt 622224 8711110).bank exG2 c2.1 c2.2 := by
  have h1 : runB exS0 [(2, exT0, .msg exOp), (2, exT0, .msg exOp2), (3, exT0 + dayNs, .block)]
      = some (exSt 311113 9022221) := by
    rw [runB, exStep, runB, exStep2, runB_block_ok _ exBlock1]; rfl
  have h2 : runB (exSt 311113 9022221) [(6, exT0 + 2 * dayNs, .block)] = some (exSt 622224 8711110) := by
    rw [runB_block_ok _ exBlock2]; rfl
  exact C12_cumulative_release_nondecreasing_along_histories exE
    [(2, exT0, .msg exOp), (2, exT0, .msg exOp2), (3, exT0 + dayNs, .block)] [(6, exT0 + 2 * dayNs, .block)]
    exS0 _ _ exT0 exHyps.1
    (GaugeExact.init exE exS0 exT0 rfl exHyps.2.1.bank) exHyps.2.2 exNoCredit h1 h2
    ("g1", exG2) (List.Mem.head _) ("g1", exG2) (List.Mem.head _) rfl rfl

end Canine.Storage

/-! ### the side condition is needed, and what it excludes

`NoCredit.fresh` excludes an escrow account that holds coins before its gauge exists.  That is
reachable (anybody can compute the hash-derived address of a gauge that a purchase at a given height
will create and send coins there; in the model: a genesis balance, or a `buyStorage` naming it as
referrer).  It is harmless, and the equality repairs itself at the next reward block — but it is not
an equality meanwhile: -/
namespace Canine.Storage
open Bank GI

/-- `exS0` with 1000 ujkl already sitting on the address that will be gauge g1's escrow account -/
def exS0p : State := { exS0 with bank := exS0.bank ++ [(("esc/g1", "ujkl"), 1000)] }
/-- … after alice's purchase (4666666 deposited, 4667666 in escrow) -/
def exP1 : State :=
  { exS1 with bank := [(("alice", "ujkl"), 999986666667), (("bob", "ujkl"), 1000000000000), (("esc/g1", "ujkl"), 4667666),
                       (("mod", "ujkl"), 1), (("pol", "ujkl"), 5333333), (("fee", "ujkl"), 3333333)] }
/-- … after the reward block one day later -/
def exP2 : State :=
  { exS1 with bank := [(("alice", "ujkl"), 999986666667), (("bob", "ujkl"), 1000000000000), (("esc/g1", "ujkl"), 4511111),
                       (("mod", "ujkl"), 156556), (("pol", "ujkl"), 5333333), (("fee", "ujkl"), 3333333)] }
/-- … after a reward block past the gauge's end (day 31 of 30) -/
def exP3 : State := { exP2 with gauges := [] }

/-- Why `NoCredit.fresh` is there: with a pre-funded escrow address the purchase succeeds, and
`A − bal = −1000` although the schedule value at the start is 0: the equality fails (the bound of
`C12_never_ahead_of_schedule_along_histories` holds).  The next reward block releases
156555 = 155555 + 1000 — the scheduled amount *and the foreign coins* go to the reward pool — and
afterwards `A − bal = 155555 = ⌊4666666/30⌋` again, as `C12_released_equals_schedule_after_reward_block`
says (it needs no hypothesis on earlier credits). -/
theorem C12_prefunded_escrow_is_released_with_the_first_block :
    stepT exS0p 2 exT0 exOp = exP1 ∧ withdrawn exP1.bank exG "ujkl" 4666666 = -1000 ∧
    Dec.trunc (would exG.startT exG.endT exT0 4666666) = 0 ∧
    beginBlock exP1 3 (exT0 + dayNs) = .ok exP2 ∧ withdrawn exP2.bank exG "ujkl" 4666666 = 155555 ∧
    Dec.trunc (would exG.startT exG.endT (exT0 + dayNs) 4666666) = 155555 :=
  by decide +kernel

/-- What is not released by the end stays in escrow: no reward block happened to fall exactly on
the end of the gauge; the first one after it (day 31) removes the gauge and transfers nothing: the
4511111 ujkl that were still in escrow remain on an account no code path debits again
(`C12_nothing_released_outside_interval_along_histories` is the general statement). -/
theorem C12_remainder_stays_in_escrow_after_removal :
    beginBlock exP2 93 (exT0 + 31 * dayNs) = .ok exP3 ∧ exP3.gauges = [] ∧
    bal exP3.bank "esc/g1" "ujkl" = 4511111 :=
  by decide +kernel

end Canine.Storage
