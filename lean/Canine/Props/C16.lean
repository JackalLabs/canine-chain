/-
C16 — Registering a name charges the listed price and yields a live name for the term.
-/
import Canine.Proofs.Rns
import Canine.Proofs.RnsRuns
import Canine.Query.Rns
import Canine.Generated.PureFns
namespace Canine.Rns
open Bank

/-- The yearly price table: TLD base cost (ibc 50 000 000, jkl 10 000 000 ujkl) times the length
tier 24 / 12 / 6 / 3 / 1 for 1 / 2 / 3 / 4 / ≥5 characters; empty names have no price. -/
theorem C16_price_table (name tld : String) :
    costOfName name tld =
      if name.length = 0 then none
      else some (tldCost tld *
        (if name.length = 1 then 24 else if name.length = 2 then 12 else if name.length = 3 then 6
         else if name.length = 4 then 3 else 1)) := by
  unfold costOfName
  rcases name.length with _ | _ | _ | _ | _ | k
  · rfl
  · rfl
  · rfl
  · rfl
  · rfl
  · simp

theorem C16_tld_costs : tldCost "ibc" = 50000000 ∧ tldCost "jkl" = 10000000 := by decide +kernel

/-- A successful registration for `y` years debits the registrant's account `cc` (the account the
signer string `c` denotes, however it is spelled) exactly `y` times the yearly price, all of it
reaches the protocol-liquidity account, nothing stays in the module account and no other
denomination moves. -/
theorem C16_register_charges_exactly (s s' : State) (h : Int) (c raw n dta : String) (y : Int)
    (p : Bool) (hpm : s.polAcc ≠ s.moduleAcc)
    (hstep : step s h (.register c raw n dta y p) = some s') :
    ∃ cc nm tld cost, acct s c = some cc ∧ nameAndTLD n = some (nm, tld) ∧ costOfName nm tld = some cost ∧
      1 ≤ y ∧ y ≤ maxYears ∧
      (cc ≠ s.moduleAcc → cc ≠ s.polAcc →
        bal s'.bank cc "ujkl" = bal s.bank cc "ujkl" - cost * y ∧
        bal s'.bank s.polAcc "ujkl" = bal s.bank s.polAcc "ujkl" + cost * y ∧
        bal s'.bank s.moduleAcc "ujkl" = bal s.bank s.moduleAcc "ujkl") ∧
      (∀ a d, d ≠ "ujkl" → bal s'.bank a d = bal s.bank a d) ∧
      (∀ a, a ≠ cc → a ≠ s.polAcc → a ≠ s.moduleAcc → ∀ d, bal s'.bank a d = bal s.bank a d) := by
  obtain ⟨cc, hcc, hd⟩ := step_delivered hstep
  cases hd with
  | register hnt hcost hy _ hb1 hb2 =>
  -- the payment passes through the module account: `cc` pays `polAcc`
  have key := passThrough_bal hb1 hb2
  refine ⟨cc, _, _, _, hcc, hnt, hcost, hy.1, hy.2, fun hcm hcp => ⟨?_, ?_, ?_⟩, fun a d hd => ?_,
    fun a ha hp hm d => ?_⟩ <;> rw [key]
  · simp [amt, Ne.symm hcp]
  · simp [amt, hcp]
  · simp [hpm, hcm]
  · simp [amt, Ne.symm hd]
  · simp [Ne.symm ha, Ne.symm hp]

/-- After a successful registration the name record belongs to the registrant's account, under
its canonical address (so that every later owner check recognises the registrant); a fresh or
expired name expires exactly `y` years after the current height, a live name renewed by its owner
exactly `y` years after its previous expiry. -/
theorem C16_register_result (s s' : State) (h : Int) (c raw n dta : String) (y : Int) (p : Bool)
    (hstep : step s h (.register c raw n dta y p) = some s') :
    ∃ cc nm tld w', acct s c = some cc ∧ nameAndTLD n = some (nm, tld) ∧
      AMap.get s'.names (nameKey nm tld) = some w' ∧
      w'.value = cc ∧ w'.data = dta ∧
      (match AMap.get s.names (nameKey nm tld) with
       | some w => if h ≤ w.expires then w.value = cc ∧ w'.expires = w.expires + y * yearBlocks
                   else w'.expires = h + y * yearBlocks
       | none => w'.expires = h + y * yearBlocks) := by
  obtain ⟨cc, hcc, hd⟩ := step_delivered hstep
  cases hd with
  | register hnt _ _ hex =>
  exact ⟨cc, _, _, _, hcc, hnt, AMap.get_set_self _ _ _, rfl, rfl, regExpiry_eq_some.mp hex⟩

/-- Consequently the name is unexpired for at least `y` years from the current height. -/
theorem C16_live_for_the_term (s s' : State) (h : Int) (c raw n dta : String) (y : Int) (p : Bool)
    (hstep : step s h (.register c raw n dta y p) = some s') :
    ∃ cc nm tld w', acct s c = some cc ∧ nameAndTLD n = some (nm, tld) ∧
      AMap.get s'.names (nameKey nm tld) = some w' ∧
      w'.value = cc ∧ h + y * yearBlocks ≤ w'.expires := by
  obtain ⟨cc, hcc, hd⟩ := step_delivered hstep
  cases hd with
  | register hnt _ _ hex =>
  exact ⟨cc, _, _, _, hcc, hnt, AMap.get_set_self _ _ _, rfl, regExpiry_ge hex⟩

/-- The owner of a live name, whatever spelling of their address they sign with, can renew it: the
ownership test of a renewal compares the record with the signer's canonical address. -/
theorem C16_owner_renewal_passes_owner_test (s : State) (h : Int) (c : String) (term : Int)
    (key : String) (w : NameRec) (hw : AMap.get s.names key = some w) (hlive : h ≤ w.expires)
    (hown : acct s c = some w.value) :
    ∃ cc, acct s c = some cc ∧ regExpiry s key cc h term = some (term + w.expires) :=
  ⟨w.value, hown, (regExpiry_live hw hlive).mpr ⟨rfl, Int.add_comm _ _⟩⟩

/-- A live name can never be registered by another account than its owner's. -/
theorem C16_live_name_not_registrable_by_others (s : State) (h : Int) (c raw n dta : String)
    (y : Int) (p : Bool) (nm tld : String) (w : NameRec) (hnt : nameAndTLD n = some (nm, tld))
    (hw : AMap.get s.names (nameKey nm tld) = some w) (hlive : h ≤ w.expires)
    (hne : acct s c ≠ some w.value) :
    step s h (.register c raw n dta y p) = none := by
  cases hs : step s h (.register c raw n dta y p) with
  | none => rfl
  | some s' =>
    obtain ⟨cc, hcc, hd⟩ := step_delivered hs
    cases hd with
    | register hnt2 _ _ hex =>
    cases hnt.symm.trans hnt2
    exact absurd (((regExpiry_live hw hlive).mp hex).1 ▸ hcc) hne

/-- The free name handed out by `Init` is a registration as well: it only ever lands on a name that
is not live (never registered, or expired), so a paid, unexpired name cannot be taken that way, and
every other name record is left as it was. -/
theorem C16_init_never_takes_a_live_name (s s' : State) (h : Int) (c g : String)
    (hstep : step s h (.init c g) = some s') :
    isLive s (nameKey g "jkl") h = false ∧
    ∀ key, key ≠ nameKey g "jkl" → AMap.get s'.names key = AMap.get s.names key := by
  obtain ⟨cc, -, hd⟩ := step_delivered hstep
  cases hd with
  | init _ _ _ hnl =>
  exact ⟨hnl, fun key hk => AMap.get_set_ne hk⟩

/-- A failed registration (like every failed message) costs nothing: the state is unchanged. -/
theorem C16_failed_register_costs_nothing (s : State) (h : Int) (op : Op)
    (hfail : step s h op = none) : stepT s h op = s :=
  stepT_none hfail

/-- `regExpiry` with two defects (regression witnesses below): for an expired name of another
owner the term is not offset by the current height `h` (`some term`), and the liveness test is
`h < w.expires` where `regExpiry` has `h ≤ w.expires`. -/
def regExpiryUnfixed (s : State) (key creator : String) (h term : Int) : Option Int :=
  match AMap.get s.names key with
  | some w =>
    if w.value = creator then some (w.expires + term)
    else if h < w.expires then none else some term
  | none => some (term + h)

def expiredState : State :=
  { names := [("foo.jkl", { name := "foo", tld := "jkl", expires := 100, value := "bob", data := "{}", locked := 0, subs := [] })],
    forsale := [], bids := [], inits := [], primary := [],
    bank := [(("carol", "ujkl"), 100000000)], blocked := ["rnsmod"], moduleAcc := "rnsmod", polAcc := "pol",
    canon := [("carol", "carol"), ("CAROL", "carol"), ("bob", "bob")] }

/-- first defect: carol re-registers the expired name at height 5 000 000 for 2 years and the term
is counted from height 0, not from the current height -/
example : regExpiryUnfixed expiredState "foo.jkl" "carol" 5000000 (2 * yearBlocks) = some 10969060 := by decide +kernel
/-- second defect: at height = Expires a stranger is let through -/
example : (regExpiryUnfixed expiredState "foo.jkl" "carol" 100 yearBlocks).isSome = true := by decide +kernel
/-- `regExpiry` in the same two situations -/
example : regExpiry expiredState "foo.jkl" "carol" 5000000 (2 * yearBlocks) = some (5000000 + 2 * yearBlocks) := by decide +kernel
example : regExpiry expiredState "foo.jkl" "carol" 100 yearBlocks = none := by decide +kernel
/-- non-vacuity: a successful registration in a concrete state (handler level, signer "CAROL";
the `#guard` below evaluates `ValidateBasic` on the same message signed "carol") -/
example : ((handle expiredState 200 "carol" (.register "CAROL" "foo.jkl" "foo.jkl" "{}" 1 false)).map
    (fun s => (bal s.bank "carol" "ujkl", bal s.bank "pol" "ujkl", (AMap.get s.names "foo.jkl").map (·.expires))))
    = some (40000000, 60000000, some (200 + yearBlocks)) := by decide +kernel
#guard validateBasic (.register "carol" "foo.jkl" "foo.jkl" "{}" 1 false)

/-- `GetCostOfName`, translated from x/rns/keeper/utils.go on every run, is the model's
`costOfName` for names whose byte length is their character count (names are ASCII: `ValidateBasic`
admits no other), its only outside input being the TLD's base cost. -/
theorem C16_generated_price_table_is_the_model (name tld : String)
    (hascii : name.utf8ByteSize = name.length) :
    Generated.Pure.GetCostOfName (tldCost tld) name tld = costOfName name tld ∧
    Generated.Pure.GetCostOfName_inputs = ["GetCost(tld)"] := by
  refine ⟨?_, rfl⟩
  unfold Generated.Pure.GetCostOfName costOfName
  rw [hascii]
  rcases name.length with _ | _ | _ | _ | _ | k
  · rfl
  · rfl
  · rfl
  · rfl
  · rfl
  · -- five or more characters: none of the length tests fires
    have e : Int.ofNat (k + 1 + 1 + 1 + 1 + 1) = (k : Int) + 5 := by rw [Int.ofNat_eq_natCast]; omega
    simp only [decide_eq_true_eq, e]
    rw [if_neg (by omega), if_neg (by omega), if_neg (by omega), if_neg (by omega), if_neg (by omega)]

/-- After a
successful registration of a plain name (`label.tld`, the label without a record part), the `Name`
query for that name returns the record just written: owned by the registrant's canonical address,
with the data given.  (`hplain`: `GetSubdomain` finds no record part in the label.) -/
theorem C16_name_query_resolves_to_registrant (s s' : State) (h : Int) (c raw n dta : String) (y : Int) (p : Bool)
    (hstep : step s h (.register c raw n dta y p) = some s')
    (hplain : ∀ nm tld, nameAndTLD n = some (nm, tld) → Query.getSubdomain nm = ("", nm, false)) :
    ∃ cc w', acct s c = some cc ∧ Query.run s' (.name n n) = .name w' ∧ w'.value = cc ∧ w'.data = dta := by
  obtain ⟨cc, nm, tld, w', hcc, hnt, hget, hv, hd, _⟩ := C16_register_result s s' h c raw n dta y p hstep
  refine ⟨cc, w', hcc, ?_, hv, hd⟩
  have hp := hplain nm tld hnt
  simp only [Query.run, Query.nameQuery, hnt, hp]
  simp only [Bool.false_eq_true, if_false, hget]

end Canine.Rns

/-! ## C16 over whole executions: the registered term is never shortened

Runs (`run`, `Mono`: heights never go down), positions in a run (`evs = pre ++ (h, op) :: post`),
the ghost of listing origins and the listing invariant are in `Proofs/RnsRuns.lean`. -/
namespace Canine.Rns

/-- Each of the 13 messages:
if the name is live when the message is delivered (`h ≤ w.expires`, the boundary included), its
record is still there afterwards and `expires` is at least what it was.  (A registration of an
*expired* name replaces the record and dates it from the current height: not covered, and not meant
to be — the name was not live.) -/
theorem C16_live_name_expiry_never_decreases (s s' : State) (h : Int) (op : Op) (key : String) (w : NameRec)
    (hw : AMap.get s.names key = some w) (hlive : h ≤ w.expires) (hstep : step s h op = some s') :
    ∃ w', AMap.get s'.names key = some w' ∧ w.expires ≤ w'.expires :=
  step_live_expiry_mono hw hlive hstep

/-- Along every run the `expires` field of a name never decreases while the name is live, and a
live name's record is never removed: at every position of every run, for every name live
immediately before the event, whatever the event and whoever signed it, whether it succeeds or not. -/
theorem C16_expiry_never_decreases_while_live_along_runs
    (s0 : State) (evs pre post : List (Int × Op)) (h : Int) (op : Op)
    (hsplit : evs = pre ++ (h, op) :: post) (key : String) (w : NameRec)
    (hw : AMap.get (run s0 pre).names key = some w) (hlive : h ≤ w.expires) :
    run s0 evs = run (run s0 (pre ++ [(h, op)])) post ∧
    ∃ w', AMap.get (run s0 (pre ++ [(h, op)])).names key = some w' ∧ w.expires ≤ w'.expires := by
  refine ⟨run_split s0 hsplit, ?_⟩
  rw [run_snoc]
  exact stepT_live_expiry_mono hw hlive op

/-- Consequently a registered name survives, with at least its term, any run that ends before the
term does: if the last event of the run is delivered at a height `≤ w.expires` (heights never go
down, so every event is), the final state still has a record for the name, expiring no earlier. -/
theorem C16_live_name_survives_until_expiry_along_runs
    (s0 : State) (evs : List (Int × Op)) (hmono : Mono evs) (key : String) (w : NameRec)
    (hw : AMap.get s0.names key = some w)
    (hlast : ∀ e, evs.getLast? = some e → e.1 ≤ w.expires) :
    ∃ w', AMap.get (run s0 evs).names key = some w' ∧ w.expires ≤ w'.expires :=
  run_live_expiry_ge evs s0 key w hw (Int.le_refl _) (hmono.all_le_of_last_le hlast)

/-- In a run from a state with an idempotent address table and
the listing invariant (e.g. no listings), let a `register` for `y` years signed by `c` succeed at
height `h`, and let the run go on (`post`) up to any height within the term `h + y·5484530`.  With
`a` the account `c` denotes and `key` the name: right after the registration the name is `a`'s and
expires no earlier than `h + y·5484530` (`OwnedFor`), and **at the end of the run it still is** —
registered, owned by the account `a`, expiring no earlier than `h + y·5484530` — **unless** at some
position of `post`, up to which it was, `a` itself gave the name away (`GaveAway`): a successful
transfer or bid acceptance of that name signed by a spelling of `a`, or somebody's successful
purchase through a stored listing that `a` created.  No message of anybody else, no `init`, no
registration attempt, takes the name, deletes it or shortens the term. -/
theorem C16_registered_term_survives_along_runs
    (s0 : State) (g0 : Ghost) (evs pre post : List (Int × Op)) (h : Int) (c raw n dta : String) (y : Int)
    (p : Bool) (s1 : State)
    (hsplit : evs = pre ++ (h, .register c raw n dta y p) :: post) (hmono : Mono evs)
    (hcan : CanonIdem s0) (hinv : ListingInv s0 g0)
    (hreg : step (run s0 pre) h (.register c raw n dta y p) = some s1)
    (hterm : ∀ e, post.getLast? = some e → e.1 ≤ h + y * yearBlocks) :
    ∃ a key, acct s0 c = some a ∧ keyOf n = some key ∧
      OwnedFor s1 key a (h + y * yearBlocks) ∧
      (OwnedFor (run s0 evs) key a (h + y * yearBlocks) ∨
       ∃ mid e rest, post = mid ++ e :: rest ∧
         OwnedFor (run s1 mid) key a (h + y * yearBlocks) ∧
         GaveAway (run s1 mid) (ghostRun s0 g0 (pre ++ (h, .register c raw n dta y p) :: mid)) a key e.1 e.2) := by
  obtain ⟨cc, nm, tld, w', hcc, hnt, hw', hv, hex⟩ := C16_live_for_the_term _ s1 h c raw n dta y p hreg
  rw [acct_run] at hcc
  have hs1 : run s0 (pre ++ [(h, .register c raw n dta y p)]) = s1 := run_snoc_some hreg
  have hown1 : OwnedFor s1 (nameKey nm tld) cc (h + y * yearBlocks) :=
    ⟨w', hw', by rw [← hs1, acct_run, hv]; exact hcan _ _ hcc, hex⟩
  refine ⟨cc, nameKey nm tld, hcc, keyOf_of hnt rfl, hown1, ?_⟩
  have hinv1 := listingInv_run hinv (pre ++ [(h, .register c raw n dta y p)])
  have hcan1 := canonIdem_run hcan (pre ++ [(h, .register c raw n dta y p)])
  rw [run_split s0 hsplit]
  rw [hs1] at hinv1 hcan1 ⊢
  refine (owned_run post s1 _ hcan1 hinv1 _ _ _ hown1
    ((hsplit ▸ hmono).right.tail.all_le_of_last_le hterm)).imp id ?_
  rintro ⟨mid, e, rest, hsp, hpre, hg⟩
  -- the ghost at that position, counted from the start of the whole run
  have hgr : ghostRun s0 g0 (pre ++ (h, .register c raw n dta y p) :: mid) =
      ghostRun s1 (ghostRun s0 g0 (pre ++ [(h, .register c raw n dta y p)])) mid := by
    rw [← hs1, ← ghostRun_append, List.append_assoc]; rfl
  exact ⟨mid, e, rest, hsp, hpre, hgr ▸ hg⟩

/-- The same with the proviso as a hypothesis on the messages of `post` themselves (`MayGiveAway`,
read off each message): if none of them is a transfer or bid acceptance of that name signed by a
spelling of `a`, or a purchase of that name, then at the end of the run the name is still
registered, still `a`'s, and expires no earlier than `h + y·5484530`. -/
theorem C16_registered_term_survives_along_runs_unless_given_away
    (s0 : State) (g0 : Ghost) (evs pre post : List (Int × Op)) (h : Int) (c raw n dta : String) (y : Int)
    (p : Bool) (s1 : State)
    (hsplit : evs = pre ++ (h, .register c raw n dta y p) :: post) (hmono : Mono evs)
    (hcan : CanonIdem s0) (hinv : ListingInv s0 g0)
    (hreg : step (run s0 pre) h (.register c raw n dta y p) = some s1)
    (hterm : ∀ e, post.getLast? = some e → e.1 ≤ h + y * yearBlocks)
    (hkeep : ∀ a key, acct s0 c = some a → keyOf n = some key → ∀ e ∈ post, ¬ MayGiveAway s0 a key e.2) :
    ∃ a key w, acct s0 c = some a ∧ keyOf n = some key ∧
      AMap.get (run s0 evs).names key = some w ∧ acct s0 w.value = some a ∧
      h + y * yearBlocks ≤ w.expires := by
  obtain ⟨a, key, ha, hkey, -, hfin | ⟨mid, e, rest, hsp, -, hg⟩⟩ :=
    C16_registered_term_survives_along_runs s0 g0 evs pre post h c raw n dta y p s1 hsplit hmono hcan hinv hreg hterm
  · obtain ⟨w, hw, hwa, hT⟩ := hfin
    exact ⟨a, key, w, ha, hkey, hw, by rw [acct_run] at hwa; exact hwa, hT⟩
  · exfalso
    apply hkeep a key ha hkey e (by rw [hsp]; simp)
    apply hg.may
    intro x
    rw [acct_run, ← run_snoc_some hreg, acct_run]

end Canine.Rns

/-! ### Non-vacuity on a concrete run

(`ValidateBasic` of a `register` runs the name through `String.all`, which the kernel does not
evaluate; its value is established by `simp` — `vb_foobar` — and the handlers are evaluated by
`decide`, all in one go — `termRun_evals` —, as in the handler-level example above.) -/
namespace Canine.Rns

def termState : State :=
  { names := [], forsale := [], bids := [], inits := [], primary := [],
    bank := [(("carol", "ujkl"), 100000000), (("bob", "ujkl"), 100000000)],
    blocked := ["rnsmod"], moduleAcc := "rnsmod", polAcc := "pol",
    canon := [("carol", "carol"), ("CAROL", "carol"), ("bob", "bob")] }

/-- carol (signing as "CAROL") registers foobar.jkl for 2 years at height 200; bob tries `init` on
it, tries to register it, tries to transfer it, and — at the very last height of the term — tries to
update it: all fail; in between carol renews for one year. -/
def termRun : List (Int × Op) :=
  [(200, .register "CAROL" "foobar.jkl" "foobar.jkl" "{}" 2 false),
   (300, .init "bob" "foobar"),
   (300, .register "bob" "foobar.jkl" "foobar.jkl" "mine" 1 true),
   (400, .register "carol" "foobar.jkl" "foobar.jkl" "{}" 1 true),
   (500, .transfer "bob" "foobar.jkl" "foobar.jkl" "bob"),
   (200 + 2 * yearBlocks, .update "bob" "foobar.jkl" "foobar.jkl" "mine")]

/-- the state after carol's registration, and after her renewal -/
def termS1 : State := (handle termState 200 "carol" (.register "CAROL" "foobar.jkl" "foobar.jkl" "{}" 2 false)).getD termState
def termS2 : State := (handle termS1 400 "carol" (.register "carol" "foobar.jkl" "foobar.jkl" "{}" 1 true)).getD termS1

/-- Everything the kernel is asked about this run, in one evaluation (what is dear is reading
"foobar.jkl" apart, and one evaluation does it once): the handler of each message in the state it
meets, and what the examples below read off the states. -/
theorem termRun_evals :
    nameAndTLD "foobar.jkl" = some ("foobar", "jkl") ∧
    handle termState 200 "carol" (.register "CAROL" "foobar.jkl" "foobar.jkl" "{}" 2 false) = some termS1 ∧
    isLive termS1 (nameKey "foobar" "jkl") 300 = true ∧
    handle termS1 300 "bob" (.register "bob" "foobar.jkl" "foobar.jkl" "mine" 1 true) = none ∧
    handle termS1 400 "carol" (.register "carol" "foobar.jkl" "foobar.jkl" "{}" 1 true) = some termS2 ∧
    step termS2 500 (.transfer "bob" "foobar.jkl" "foobar.jkl" "bob") = none ∧
    step termS2 (200 + 2 * yearBlocks) (.update "bob" "foobar.jkl" "foobar.jkl" "mine") = none ∧
    (AMap.get termS2.names "foobar.jkl").map (fun w => (w.value, w.expires)) = some ("carol", 200 + 3 * yearBlocks) ∧
    (handle termS1 (201 + 2 * yearBlocks) "bob" (.register "bob" "foobar.jkl" "foobar.jkl" "mine" 1 true)).bind
      (fun s => (AMap.get s.names "foobar.jkl").map (fun w => (w.value, w.expires))) = some ("bob", 201 + 3 * yearBlocks) := by
  decide +kernel

theorem vb_foobar (c d : String) (y : Int) (p : Bool) :
    validateBasic (.register c "foobar.jkl" "foobar.jkl" d y p) = true := by
  simp [validateBasic, termRun_evals.1, isValidName]

theorem termRun_reg : step termState 200 (.register "CAROL" "foobar.jkl" "foobar.jkl" "{}" 2 false) = some termS1 :=
  (step_eq_handle (vb_foobar _ _ _ _) rfl (by decide +kernel)).trans termRun_evals.2.1
theorem termRun_init_fails : step termS1 300 (.init "bob" "foobar") = none := by
  cases hs : step termS1 300 (.init "bob" "foobar") with
  | none => rfl
  | some s' =>
    have h1 := (C16_init_never_takes_a_live_name _ _ _ _ _ hs).1
    rw [termRun_evals.2.2.1] at h1; cases h1
theorem termRun_bob_reg_fails : step termS1 300 (.register "bob" "foobar.jkl" "foobar.jkl" "mine" 1 true) = none :=
  (step_eq_handle (vb_foobar _ _ _ _) rfl ((acct_step termRun_reg "bob").trans (by decide +kernel))).trans
    termRun_evals.2.2.2.1
theorem termRun_renew : step termS1 400 (.register "carol" "foobar.jkl" "foobar.jkl" "{}" 1 true) = some termS2 :=
  (step_eq_handle (vb_foobar _ _ _ _) rfl ((acct_step termRun_reg "carol").trans (by decide +kernel))).trans
    termRun_evals.2.2.2.2.1

/-- every one of bob's messages fails (the last at the boundary: the last height of the 2-year term
is still inside it); the run ends in the state after carol's renewal -/
theorem termRun_final : run termState termRun = termS2 := by
  rw [termRun, run, stepT_some termRun_reg, run, stepT_none termRun_init_fails, run,
    stepT_none termRun_bob_reg_fails, run, stepT_some termRun_renew, run,
    stepT_none termRun_evals.2.2.2.2.2.1, run, stepT_none termRun_evals.2.2.2.2.2.2.1, run]

example : Mono termRun := by decide +kernel
theorem termState_canonIdem : CanonIdem termState := canonIdem_of_mem (by decide +kernel)

/-- the theorem instantiated on this run (the registration is its first event): all its hypotheses
are met … -/
example : ∃ a key w, acct termState "CAROL" = some a ∧ keyOf "foobar.jkl" = some key ∧
    AMap.get (run termState termRun).names key = some w ∧ acct termState w.value = some a ∧
    200 + 2 * yearBlocks ≤ w.expires := by
  refine C16_registered_term_survives_along_runs_unless_given_away termState [] termRun [] termRun.tail 200
    "CAROL" "foobar.jkl" "foobar.jkl" "{}" 2 false termS1 rfl (by decide +kernel) termState_canonIdem
    (listingInv_of_no_listings _ _ rfl) termRun_reg ?_ ?_
  · intro e he
    have : e = (200 + 2 * yearBlocks, Op.update "bob" "foobar.jkl" "foobar.jkl" "mine") := by
      simpa [termRun] using he.symm
    subst this; decide +kernel
  · intro a key ha hkey e he
    cases ha.symm.trans (show _ = some "carol" by decide +kernel)
    cases hkey.symm.trans (keyOf_of termRun_evals.1 rfl)
    simp only [termRun, List.tail_cons, List.mem_cons, List.not_mem_nil, or_false] at he
    rcases he with rfl | rfl | rfl | rfl | rfl
    · exact id
    · exact id
    · exact id
    · intro hg; exact absurd hg.1 (by decide +kernel)
    · exact id
/-- … and by evaluation: at the end carol's account owns the name, which expires three years after
height 200 (the renewal added exactly a year to the unexpired term) -/
example : (AMap.get (run termState termRun).names "foobar.jkl").map (fun w => (w.value, w.expires))
    = some ("carol", 200 + 3 * yearBlocks) := by rw [termRun_final]; exact termRun_evals.2.2.2.2.2.2.2.1
/-- one block after the term of the (unrenewed) name anybody may register it anew — allowed, the
name is not live: the bound on the heights of `post` cannot be dropped -/
example : ((handle termS1 (201 + 2 * yearBlocks) "bob"
      (.register "bob" "foobar.jkl" "foobar.jkl" "mine" 1 true)).bind
    (fun s => (AMap.get s.names "foobar.jkl").map (fun w => (w.value, w.expires))))
    = some ("bob", 201 + 3 * yearBlocks) := termRun_evals.2.2.2.2.2.2.2.2

end Canine.Rns
