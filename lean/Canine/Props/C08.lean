/-
C08 — A live name changes owner only with its current owner's consent, who is paid.
Live = registered ∧ height ≤ Expires.  Names are identified as the chain does (store key "name.tld").
-/
import Canine.Proofs.Rns
import Canine.Proofs.RnsRuns
namespace Canine.Rns
open Bank

/-- the canonicalisation table is idempotent: a canonical spelling is its own canonical spelling -/
def CanonOK (s : State) : Prop := ∀ x y, acct s x = some y → acct s y = some y

def SameAcct (s : State) (a b : String) : Prop := ∃ cc, acct s a = some cc ∧ acct s b = some cc

/-- a signer whose canonical address is the recorded owner string is a spelling of the owner's account -/
theorem sameAcct_of_acct {s : State} (hcan : CanonOK s) {c v : String} (hc : acct s c = some v) :
    SameAcct s c v := ⟨v, hc, hcan _ _ hc⟩

/-- Messages signed by anyone but the owner's account (whatever spelling of an address is used)
leave a live name's record (owner, data, sub-records, expiry) exactly as it was — with the
single exception of a purchase through a listing whose recorded lister is the current owner;
then only owner and data change. -/
theorem C08_non_owner_messages_frame (s s' : State) (h : Int) (op : Op) (key : String) (w : NameRec)
    (hw : AMap.get s.names key = some w) (hlive : h ≤ w.expires) (hcan : CanonOK s)
    (hsig : ¬ SameAcct s op.creator w.value) (hstep : step s h op = some s') :
    AMap.get s'.names key = some w ∨
    (∃ raw n sale, op = .buy op.creator raw n ∧ AMap.get s.forsale n = some sale ∧
        sale.owner = w.value ∧
        AMap.get s'.names key = some { w with value := op.creator, data := "{}" }) := by
  obtain ⟨cc, hcc, -⟩ := step_delivered hstep
  have hno : ∀ {c}, op.creator = c → ¬ acct s c = some w.value :=
    fun e hc => hsig (e ▸ sameAcct_of_acct hcan hc)
  rcases step_live_name hw hlive hstep with h1 | ⟨c, raw, n, sale, rfl, -, hsale, hso, -, h2⟩ |
      ⟨c, raw, n, r, rfl, -, hc, -⟩ | ⟨c, raw, n, b, bd, rfl, -, hc, -, -⟩ | ⟨w', -, -, -, hc | hc⟩
  · exact .inl h1
  · exact .inr ⟨raw, n, sale, rfl, hsale, hso, h2⟩
  · exact absurd hc (hno rfl)
  · exact absurd hc (hno rfl)
  · exact absurd hc (hno rfl)
  · exact absurd ⟨cc, hcc, hc ▸ hcc⟩ hsig

/-- Whenever the owner string of a live name changes, the message was a transfer or a bid
acceptance signed by the owner's account, or a purchase through a listing recorded in the owner's
name. -/
theorem C08_owner_change_characterisation (s s' : State) (h : Int) (op : Op) (key : String)
    (w w' : NameRec) (hw : AMap.get s.names key = some w) (hlive : h ≤ w.expires) (hcan : CanonOK s)
    (hstep : step s h op = some s') (hw' : AMap.get s'.names key = some w')
    (hchg : w'.value ≠ w.value) :
    (∃ c raw n r, op = .transfer c raw n r ∧ SameAcct s c w.value) ∨
    (∃ c raw n b, op = .acceptBid c raw n b ∧ SameAcct s c w.value) ∨
    (∃ c raw n sale, op = .buy c raw n ∧ c ≠ w.value ∧ AMap.get s.forsale n = some sale ∧
        sale.owner = w.value) := by
  rcases step_live_name hw hlive hstep with h1 | ⟨c, raw, n, sale, rfl, -, hsale, hso, hne, -⟩ |
      ⟨c, raw, n, r, rfl, -, hc, -⟩ | ⟨c, raw, n, b, bd, rfl, -, hc, -, -⟩ | ⟨w2, h5, hv, -, -⟩
  · cases hw'.symm.trans h1; exact absurd rfl hchg
  · exact .inr (.inr ⟨c, raw, n, sale, rfl, hne, hsale, hso⟩)
  · exact .inl ⟨c, raw, n, r, rfl, sameAcct_of_acct hcan hc⟩
  · exact .inr (.inl ⟨c, raw, n, b, rfl, sameAcct_of_acct hcan hc⟩)
  · cases hw'.symm.trans h5; exact absurd hv hchg

/-- A purchase pays the full listed price to the account that owned the name immediately before
(the account `seller` that the recorded owner string denotes), and debits the buyer's account
`cc` by the same amount; the new record carries the signer string as sent. -/
theorem C08_buy_pays_previous_owner (s s' : State) (h : Int) (c raw n : String)
    (hm : s.moduleAcc ∈ s.blocked)
    (hstep : step s h (.buy c raw n) = some s') :
    ∃ cc seller sale nm tld w dn a coins, acct s c = some cc ∧ acct s w.value = some seller ∧
      AMap.get s.forsale n = some sale ∧ nameAndTLD n = some (nm, tld) ∧
      AMap.get s.names (nameKey nm tld) = some w ∧ h ≤ w.expires ∧ sale.owner = w.value ∧ w.value ≠ c ∧
      sale.price = some (dn, a) ∧ newCoins dn a = some coins ∧
      AMap.get s'.names (nameKey nm tld) = some { w with value := c, data := "{}" } ∧
      (seller ≠ cc → cc ≠ s.moduleAcc →
        (∀ d, bal s'.bank seller d = bal s.bank seller d + amt d coins) ∧
        (∀ d, bal s'.bank cc d = bal s.bank cc d - amt d coins)) := by
  obtain ⟨cc, hcc, hd⟩ := step_delivered hstep
  cases hd with
  | buy hsale hnt hw hlive hne hown hseller hpr hcoins hb1 hb2 =>
  refine ⟨cc, _, _, _, _, _, _, _, _, hcc, hown ▸ hseller, hsale, hnt, hw, hlive,
    hown.symm, hne, hpr, hcoins, AMap.get_set_self _ _ _,
    fun hsc _ => passThrough_pays hb1 hb2 hsc⟩

/-- Listings are only ever written by `List`, in the name of its signer: if a listing is present
after a step and was not there (identically) before, the step was `List` signed by the listing's
recorded owner, who at that moment owned the live name. -/
theorem C08_listing_created_only_by_its_owner (s s' : State) (h : Int) (op : Op) (k : String)
    (l : Listing) (hl : AMap.get s'.forsale k = some l) (hnew : AMap.get s.forsale k ≠ some l)
    (hstep : step s h op = some s') :
    ∃ raw pr p nm tld w, op = .list l.owner raw k pr p ∧ nameAndTLD k = some (nm, tld) ∧
      AMap.get s.names (nameKey nm tld) = some w ∧ w.value = l.owner ∧ h ≤ w.expires := by
  rcases step_forsale_frame hstep hl with hold | ⟨c, raw, pr, p, key, w, rfl, -, rfl, hkey, hw, hown, hlive⟩
  · exact absurd hold hnew
  · obtain ⟨nm, tld, hnt, rfl⟩ := keyOf_inv hkey
    exact ⟨raw, pr, p, nm, tld, w, rfl, hnt, hw, hown, hlive⟩

/-- `buy` without the `sale.owner = owner` check (regression witness): a
listing left behind by a transfer lets a buyer take the name while the stale lister is paid. -/
def buyUnfixed (s : State) (h : Int) (creator lname : String) : Option State := do
  let sale ← AMap.get s.forsale lname
  let (n, tld) ← nameAndTLD lname
  let w ← AMap.get s.names (nameKey n tld)
  req (h ≤ w.expires)
  req (w.value ≠ creator)
  let (d, amt) ← sale.price
  let coins ← Bank.newCoins d amt
  let b1 ← Bank.send s.bank creator s.moduleAcc coins
  let b2 ← sendFromModule { s with bank := b1 } sale.owner coins
  some { s with bank := b2, forsale := AMap.erase s.forsale sale.name,
                names := AMap.set s.names (nameKey n tld) { w with value := creator, data := "{}" } }

def staleState : State :=
  { names := [("foo.jkl", { name := "foo", tld := "jkl", expires := 100, value := "bob", data := "{}", locked := 0, subs := [] })],
    forsale := [("foo.jkl", { name := "foo.jkl", owner := "alice", priceRaw := "777ujkl", price := some ("ujkl", 777) })],
    bids := [], inits := [], primary := [],
    bank := [(("carol", "ujkl"), 1000)], blocked := ["rnsmod"], moduleAcc := "rnsmod", polAcc := "pol",
    canon := [("alice", "alice"), ("bob", "bob"), ("carol", "carol"), ("dave", "dave"), ("BOB", "bob")] }

/-- The examples on `staleState`, evaluated together (each would read "foo.jkl" apart again). -/
theorem staleState_evals :
    (buyUnfixed staleState 5 "carol" "foo.jkl").map
      (fun s => (bal s.bank "alice" "ujkl", bal s.bank "bob" "ujkl")) = some (777, 0) ∧
    step staleState 5 (.buy "carol" "foo.jkl" "foo.jkl") = none ∧
    (step staleState 5 (.bid "carol" "foo.jkl" "foo.jkl" "5ujkl" (some [("ujkl", 5)]))).isSome = true ∧
    (∀ signer ∈ ["bob", "BOB"], (step staleState 5 (.transfer signer "foo.jkl" "foo.jkl" "dave")).bind
      (fun s => (AMap.get s.names "foo.jkl").map (·.value)) = some "dave") := by
  decide +kernel

/-- witness: without the check the handler pays alice (stale lister) and bob (owner) gets nothing -/
example : ((buyUnfixed staleState 5 "carol" "foo.jkl").map
    (fun s => (bal s.bank "alice" "ujkl", bal s.bank "bob" "ujkl"))) = some (777, 0) := staleState_evals.1
/-- the handler refuses -/
example : step staleState 5 (.buy "carol" "foo.jkl" "foo.jkl") = none := staleState_evals.2.1

/-- Non-vacuity of the frame/characterisation hypotheses: a live name, a non-owner message that
succeeds (a bid) and an owner message that moves the name (transfer). -/
example : (step staleState 5 (.bid "carol" "foo.jkl" "foo.jkl" "5ujkl" (some [("ujkl", 5)]))).isSome = true :=
  staleState_evals.2.2.1
example : ((step staleState 5 (.transfer "bob" "foo.jkl" "foo.jkl" "dave")).bind
    (fun s => (AMap.get s.names "foo.jkl").map (·.value))) = some "dave" :=
  staleState_evals.2.2.2 "bob" (by simp)

/-- the example state's address table is idempotent, and a differently spelled owner address
(`"BOB"` denotes the account `"bob"`) still counts as the owner: the transfer goes through -/
example : CanonOK staleState := canonIdem_of_mem (by decide +kernel)
example : ((step staleState 5 (.transfer "BOB" "foo.jkl" "foo.jkl" "dave")).bind
    (fun s => (AMap.get s.names "foo.jkl").map (·.value))) = some "dave" :=
  staleState_evals.2.2.2 "BOB" (by simp)
example : SameAcct staleState "BOB" "bob" := ⟨"bob", by decide +kernel, by decide +kernel⟩

end Canine.Rns

/-! ## C08 over whole executions

Runs, positions in a run and the ghost of listing origins are in `Proofs/RnsRuns.lean`.  None of the
statements of this section needs the heights of the run to be ordered: they hold for every list of
events.  The address table is the same in every state of a run (`acct_run`), so "the account a
string denotes" is written with the initial state `s₀`. -/
namespace Canine.Rns
open Bank

/-- `CanonOK` is the idempotence the run helpers are stated with -/
theorem CanonOK_iff_CanonIdem (s : State) : CanonOK s ↔ CanonIdem s := Iff.rfl

/-- From a state where every stored listing has a recorded
origin that created it as owner of the then live name (e.g. a state without listings,
`listingInv_of_no_listings`), every stored listing of every later state has one.  (Only `List`
writes a listing — `step_forsale_frame`, one step, the lemma behind `C08_listing_created_only_by_its_owner` —
and it writes the signer string, which it has just compared with the name's owner.) -/
theorem C08_listing_invariant_along_runs (s0 : State) (g0 : Ghost) (hinv : ListingInv s0 g0)
    (evs : List (Int × Op)) : ListingInv (run s0 evs) (ghostRun s0 g0 evs) :=
  listingInv_run hinv evs

/-- `step_forsale_frame` (`C08_listing_created_only_by_its_owner`) at any position of any run. -/
theorem C08_only_list_writes_a_listing_along_runs
    (s0 : State) (pre : List (Int × Op)) (h : Int) (op : Op) (k : String) (l : Listing)
    (hl : AMap.get (run s0 (pre ++ [(h, op)])).forsale k = some l) :
    AMap.get (run s0 pre).forsale k = some l ∨
    (∃ c raw pr p key w, op = .list c raw k pr p ∧ (step (run s0 pre) h op).isSome ∧
        AMap.get (run s0 pre).forsale k = none ∧ l.owner = c ∧
        keyOf k = some key ∧ AMap.get (run s0 pre).names key = some w ∧ w.value = c ∧ h ≤ w.expires) := by
  rw [run_snoc] at hl
  cases hs : step (run s0 pre) h op with
  | none => rw [stepT_none hs] at hl; exact .inl hl
  | some s' =>
    rw [stepT_some hs] at hl
    refine (step_forsale_frame hs hl).imp id ?_
    rintro ⟨c, raw, pr, p, key, w, hop, hnone, rfl, hkey, hw, hown, hlive⟩
    exact ⟨c, raw, pr, p, key, w, hop, rfl, hnone, rfl, hkey, hw, hown, hlive⟩

/-- the listed price left the account `buyer` and all of it reached the account `seller`
(`seller ≠ buyer`: the owner account really changes; the premise `buyer ≠ s.moduleAcc` is not used by
the proofs) -/
def PaidInFull (s s' : State) (sale : Listing) (seller buyer : String) : Prop :=
  ∃ dn a coins, sale.price = some (dn, a) ∧ newCoins dn a = some coins ∧
    (seller ≠ buyer → buyer ≠ s.moduleAcc →
      (∀ d, bal s'.bank seller d = bal s.bank seller d + amt d coins) ∧
      (∀ d, bal s'.bank buyer d = bal s.bank buyer d - amt d coins))

/-- A purchase of the name `key` (record `w` immediately before) by the signer string `c` through
the listing stored under `n`: the listing carries the owner's string, its recorded origin says it was
created by the account `seller`, which is the account owning the name immediately before the
purchase (and owned it, live, when it listed it); the new record carries the buyer string, data
reset, nothing else touched; `seller` is paid the full price by the buyer's account `buyer`. -/
def PurchasedFromOwner (s : State) (g : Ghost) (s' : State) (c n key : String) (w : NameRec)
    (seller buyer : String) : Prop :=
  ∃ sale o, AMap.get s.forsale n = some sale ∧ sale.owner = w.value ∧
    AMap.get g n = some o ∧ CreatedByOwner s sale o ∧ o.account = some seller ∧
    acct s w.value = some seller ∧ acct s c = some buyer ∧
    AMap.get s'.names key = some { w with value := c, data := "{}" } ∧
    PaidInFull s s' sale seller buyer

theorem purchase_from_owner {s s' : State} {g : Ghost} {h : Int} {c raw n : String}
    (hinv : ListingInv s g) (hbuy : step s h (.buy c raw n) = some s') :
    ∃ key w seller buyer, keyOf n = some key ∧ AMap.get s.names key = some w ∧ h ≤ w.expires ∧
      PurchasedFromOwner s g s' c n key w seller buyer := by
  obtain ⟨cc, hcc, hd⟩ := step_delivered hbuy
  cases hd with
  | buy hsale hnt hw hlive _ hown hseller hpr hcoins hb1 hb2 =>
  obtain ⟨o, ho, hcr⟩ := hinv n _ hsale
  -- the origin records the account the listing's owner string denotes: the seller
  obtain ⟨a, hacc, ha⟩ := hcr.2.1
  cases hseller.symm.trans ha
  exact ⟨_, _, _, cc, keyOf_of hnt rfl, hw, hlive, _, o, hsale, hown.symm, ho, hcr, hacc, hown ▸ hseller, hcc,
    AMap.get_set_self _ _ _, _, _, _, hpr, hcoins,
    fun hsc _ => passThrough_pays hb1 hb2 hsc⟩

/-- **C08 along runs — the listing clause.**  In every run from a state satisfying the listing
invariant (e.g. one without listings), every successful `buy` — at any position of the run — is
the purchase of a live name through a stored listing that was created by the account owning the
name immediately before the purchase (`PurchasedFromOwner`: the recorded origin of the listing is
that account, which owned the live name when it listed it), and whenever the owner account changes
(`seller ≠ buyer`) that account receives the full price.  So ownership never moves through a
listing created by anybody else, in particular not through a listing left behind by a previous
owner (`C08_stale_listing_never_sells_along_runs`). -/
theorem C08_purchase_only_through_owner_created_listing_along_runs
    (s0 : State) (g0 : Ghost) (evs pre post : List (Int × Op)) (h : Int) (c raw n : String) (s' : State)
    (hsplit : evs = pre ++ (h, .buy c raw n) :: post)
    (hinv : ListingInv s0 g0) (hm : s0.moduleAcc ∈ s0.blocked)
    (hbuy : step (run s0 pre) h (.buy c raw n) = some s') :
    run s0 evs = run s' post ∧
    ∃ key w seller buyer, keyOf n = some key ∧
      AMap.get (run s0 pre).names key = some w ∧ h ≤ w.expires ∧
      PurchasedFromOwner (run s0 pre) (ghostRun s0 g0 pre) s' c n key w seller buyer :=
  ⟨(run_split s0 hsplit).trans (by rw [run_snoc_some hbuy]),
    purchase_from_owner (listingInv_run hinv pre) hbuy⟩

/-- At any position of a run, if the account that created
the stored listing `n` (its recorded origin) is not the account that owns the name now, `buy`
through that listing fails — whoever signs it, whatever the height. -/
theorem C08_stale_listing_never_sells_along_runs
    (s0 : State) (g0 : Ghost) (pre : List (Int × Op)) (h : Int) (c raw n : String)
    (hinv : ListingInv s0 g0) (o : ListingOrigin) (key : String) (w : NameRec)
    (ho : AMap.get (ghostRun s0 g0 pre) n = some o)
    (hkey : keyOf n = some key) (hw : AMap.get (run s0 pre).names key = some w)
    (hstale : o.account ≠ acct s0 w.value) :
    step (run s0 pre) h (.buy c raw n) = none := by
  cases hs : step (run s0 pre) h (.buy c raw n) with
  | none => rfl
  | some s' =>
    obtain ⟨key', w', seller, buyer, hkey', hw', -, sale, o', -, -, ho', -, hacc, hsel, -⟩ :=
      purchase_from_owner (listingInv_run hinv pre) hs
    cases hkey.symm.trans hkey'
    cases hw.symm.trans hw'
    cases ho.symm.trans ho'
    rw [acct_run] at hsel
    exact absurd (hacc.trans hsel.symm) hstale

/-- **C08 along runs — the frame clause.**  Take any run, any position in it (`evs = pre ++ (h, op)
:: post`) and any name `key` that is live immediately before the event (record `w`,
`h ≤ w.expires`).  Immediately after the event the name is still registered (record `w'`, expiry
not smaller), and

* if its owner *account* differs, the event is a `transfer` or an `acceptBid` of that name signed
  by a spelling of the owner's account, or a `buy` of that name through a listing created by the
  owner's account, which is paid the full price (`PurchasedFromOwner`, with `seller ≠ buyer`);
* if anything at all in the record differs (owner string, data, sub-records, expiry, lock), the
  event is signed by a spelling of the owner's account — or it is such a purchase, which changes
  the owner string and resets the data and touches nothing else.

Messages signed by anyone else — previous owners, holders of stale listings — leave the record
exactly as it was.  The model's one quirk, as in the Go handler (`name.Value == sender` compares
strings): the owner can "buy" its own listing signing with another spelling of its address; the
owner string changes, the owner account does not, the price goes from the account to itself (see
the `example` below). -/
theorem C08_owner_changes_only_by_consent_along_runs
    (s0 : State) (g0 : Ghost) (evs pre post : List (Int × Op)) (h : Int) (op : Op)
    (hsplit : evs = pre ++ (h, op) :: post)
    (hcan : CanonOK s0) (hinv : ListingInv s0 g0) (hm : s0.moduleAcc ∈ s0.blocked)
    (key : String) (w : NameRec)
    (hw : AMap.get (run s0 pre).names key = some w) (hlive : h ≤ w.expires) :
    run s0 evs = run (run s0 (pre ++ [(h, op)])) post ∧
    ∃ w', AMap.get (run s0 (pre ++ [(h, op)])).names key = some w' ∧ w.expires ≤ w'.expires ∧
      (acct s0 w'.value ≠ acct s0 w.value →
        (∃ c raw n r, op = .transfer c raw n r ∧ keyOf n = some key ∧ SameAcct s0 c w.value) ∨
        (∃ c raw n b, op = .acceptBid c raw n b ∧ keyOf n = some key ∧ SameAcct s0 c w.value) ∨
        (∃ c raw n seller buyer, op = .buy c raw n ∧ keyOf n = some key ∧ seller ≠ buyer ∧
          PurchasedFromOwner (run s0 pre) (ghostRun s0 g0 pre) (run s0 (pre ++ [(h, op)])) c n key w
            seller buyer)) ∧
      (w' ≠ w →
        SameAcct s0 op.creator w.value ∨
        (∃ c raw n seller buyer, op = .buy c raw n ∧ keyOf n = some key ∧
          w' = { w with value := c, data := "{}" } ∧
          PurchasedFromOwner (run s0 pre) (ghostRun s0 g0 pre) (run s0 (pre ++ [(h, op)])) c n key w
            seller buyer)) := by
  refine ⟨run_split s0 hsplit, ?_⟩
  rw [run_snoc]
  have hcan' : CanonOK (run s0 pre) := canonIdem_run hcan pre
  have hacct : ∀ x, acct (run s0 pre) x = acct s0 x := acct_run s0 pre
  have hinv' := listingInv_run hinv pre
  generalize run s0 pre = s at *
  generalize ghostRun s0 g0 pre = g at *
  have hsame : ∀ c, acct s c = some w.value → SameAcct s0 c w.value := fun c hc =>
    (sameAcct_of_acct hcan' hc).imp fun _ ⟨h1, h2⟩ => ⟨(hacct _).symm.trans h1, (hacct _).symm.trans h2⟩
  cases hs : step s h op with
  | none =>
    rw [stepT_none hs]
    exact ⟨w, hw, Int.le_refl _, fun hne => absurd rfl hne, fun hne => absurd rfl hne⟩
  | some s' =>
  rw [stepT_some hs]
  rcases step_live_name hw hlive hs with h1 | ⟨c, raw, n, sale, rfl, hkey, hsale, hso, hcne, h2⟩ |
      ⟨c, raw, n, r, rfl, hkey, hc, h3⟩ | ⟨c, raw, n, b, bd, rfl, hkey, hc, -, h4⟩ | ⟨w', h5, hv, hle, hsig⟩
  · exact ⟨w, h1, Int.le_refl _, fun hne => absurd rfl hne, fun hne => absurd rfl hne⟩
  · obtain ⟨key', w2, seller, buyer, hkey', hw2, -, hp⟩ := purchase_from_owner hinv' hs
    cases hkey.symm.trans hkey'
    cases hw.symm.trans hw2
    refine ⟨_, h2, Int.le_refl _, fun hne => .inr (.inr ⟨c, raw, n, seller, buyer, rfl, hkey, ?_, hp⟩),
      fun _ => .inr ⟨c, raw, n, seller, buyer, rfl, hkey, rfl, hp⟩⟩
    obtain ⟨_, _, -, -, -, -, -, hsl, hby, -⟩ := hp
    intro e
    apply hne
    show acct s0 c = acct s0 w.value
    rw [← hacct c, ← hacct w.value, hsl, hby, e]
  · exact ⟨_, h3, Int.le_refl _, fun _ => .inl ⟨c, raw, n, r, rfl, hkey, hsame c hc⟩, fun _ => .inl (hsame c hc)⟩
  · exact ⟨_, h4, Int.le_refl _, fun _ => .inr (.inl ⟨c, raw, n, b, rfl, hkey, hsame c hc⟩),
      fun _ => .inl (hsame c hc)⟩
  · refine ⟨w', h5, hle, fun hne => absurd (by rw [hv]) hne, fun _ => .inl ?_⟩
    rcases hsig with hc | hc
    · exact hsame _ hc
    · obtain ⟨cc, hcc, -⟩ := step_delivered hs
      exact ⟨cc, (hacct _).symm.trans hcc, (hacct _).symm.trans (hc ▸ hcc)⟩

end Canine.Rns

/-! ### Non-vacuity on a concrete run -/
namespace Canine.Rns
open Bank

/-- alice owns the live name foo.jkl; nothing is listed -/
def runState : State :=
  { names := [("foo.jkl", { name := "foo", tld := "jkl", expires := 100, value := "alice", data := "{}", locked := 0, subs := [] })],
    forsale := [], bids := [], inits := [], primary := [],
    bank := [(("carol", "ujkl"), 1000)], blocked := ["rnsmod"], moduleAcc := "rnsmod", polAcc := "pol",
    canon := [("alice", "alice"), ("bob", "bob"), ("carol", "carol"), ("BOB", "bob")] }

/-- alice lists, transfers to bob; carol tries the stale listing; bob lists (under the only key left
to him — `GetNameAndTLD` never looks at the separator character, and the key "foo.jkl" is still
occupied by alice's listing, which nobody can remove any more); carol buys from bob. -/
def staleRun : List (Int × Op) :=
  [(1, .list "alice" "foo.jkl" "foo.jkl" "777ujkl" (some ("ujkl", 777))),
   (2, .transfer "alice" "foo.jkl" "foo.jkl" "bob"),
   (3, .buy "carol" "foo.jkl" "foo.jkl"),
   (4, .list "bob" "foo-jkl" "foo-jkl" "500ujkl" (some ("ujkl", 500))),
   (5, .buy "carol" "foo-jkl" "foo-jkl")]

example : Mono staleRun := by decide +kernel
example : ListingInv runState [] := listingInv_of_no_listings _ _ rfl
example : runState.moduleAcc ∈ runState.blocked := by decide +kernel

/-- the record of foo.jkl in the hands of `owner` -/
def fooOf (owner : String) : NameRec :=
  { name := "foo", tld := "jkl", expires := 100, value := owner, data := "{}", locked := 0, subs := [] }

/-- The run evaluated once up to carol's attempt on the stale listing: the recorded origin of alice's
listing, the name's record after the transfer, and what `buy`, `delist` and `list` under the occupied
key do in that state. -/
theorem staleRun_evals_stale :
    AMap.get (ghostRun runState [] (staleRun.take 2)) "foo.jkl" = some
      { signer := "alice", account := some "alice", height := 1, nameThen := some (fooOf "alice") } ∧
    AMap.get (run runState (staleRun.take 2)).names "foo.jkl" = some (fooOf "bob") ∧
    keyOf "foo.jkl" = some "foo.jkl" ∧
    step (run runState (staleRun.take 2)) 3 (.buy "carol" "foo.jkl" "foo.jkl") = none ∧
    step (run runState (staleRun.take 2)) 3 (.delist "alice" "foo.jkl" "foo.jkl") = none ∧
    step (run runState (staleRun.take 2)) 3 (.delist "bob" "foo.jkl" "foo.jkl") = none ∧
    step (run runState (staleRun.take 2)) 3 (.list "bob" "foo.jkl" "foo.jkl" "5ujkl" (some ("ujkl", 5))) = none := by
  decide +kernel

/-- and once around carol's purchase through bob's listing: it succeeds and ends the run; the name's
record before and after; the balances at the end. -/
theorem staleRun_evals_sale :
    step (run runState (staleRun.take 4)) 5 (.buy "carol" "foo-jkl" "foo-jkl") = some (run runState staleRun) ∧
    AMap.get (run runState (staleRun.take 4)).names "foo.jkl" = some (fooOf "bob") ∧
    AMap.get (run runState staleRun).names "foo.jkl" = some (fooOf "carol") ∧
    (bal (run runState staleRun).bank "bob" "ujkl", bal (run runState staleRun).bank "alice" "ujkl",
      bal (run runState staleRun).bank "carol" "ujkl", bal (run runState staleRun).bank "rnsmod" "ujkl") = (500, 0, 500, 0) := by
  decide +kernel

/-- after the transfer alice's listing is stale: created by account alice, name owned by bob … -/
example : ((AMap.get (ghostRun runState [] (staleRun.take 2)) "foo.jkl").map (·.account),
           (AMap.get (run runState (staleRun.take 2)).names "foo.jkl").map (·.value))
    = (some (some "alice"), some "bob") := by rw [staleRun_evals_stale.1, staleRun_evals_stale.2.1]; rfl
/-- … and carol's purchase through it fails (as `C08_stale_listing_never_sells_along_runs` says): nobody is paid, bob keeps the name -/
example : step (run runState (staleRun.take 2)) 3 (.buy "carol" "foo.jkl" "foo.jkl") = none :=
  staleRun_evals_stale.2.2.2.1
example : step (run runState (staleRun.take 2)) 3 (.buy "carol" "foo.jkl" "foo.jkl") = none :=
  C08_stale_listing_never_sells_along_runs runState [] (staleRun.take 2) 3 "carol" "foo.jkl" "foo.jkl"
    (listingInv_of_no_listings _ _ rfl) _ _ _ staleRun_evals_stale.1 staleRun_evals_stale.2.2.1
    staleRun_evals_stale.2.1 (by decide +kernel)
/-- the purchase through bob's own listing goes through: the hypotheses of
`C08_purchase_only_through_owner_created_listing_along_runs` are met at position 5 of the run … -/
example : (step (run runState (staleRun.take 4)) 5 (.buy "carol" "foo-jkl" "foo-jkl")).isSome = true := by
  rw [staleRun_evals_sale.1]; rfl
/-- … and at the end carol owns the name, bob (the owner immediately before) has the full 500, alice nothing -/
example : ((AMap.get (run runState staleRun).names "foo.jkl").map (·.value),
           bal (run runState staleRun).bank "bob" "ujkl", bal (run runState staleRun).bank "alice" "ujkl",
           bal (run runState staleRun).bank "carol" "ujkl", bal (run runState staleRun).bank "rnsmod" "ujkl")
    = (some "carol", 500, 0, 500, 0) := by
  rw [staleRun_evals_sale.2.2.1]; exact congrArg (Prod.mk _) staleRun_evals_sale.2.2.2
/-- the run theorem instantiated at that position -/
example : ∃ key w seller buyer, keyOf "foo-jkl" = some key ∧
    AMap.get (run runState (staleRun.take 4)).names key = some w ∧ (5 : Int) ≤ w.expires ∧
    PurchasedFromOwner (run runState (staleRun.take 4)) (ghostRun runState [] (staleRun.take 4))
      (run runState staleRun) "carol" "foo-jkl" key w seller buyer :=
  (C08_purchase_only_through_owner_created_listing_along_runs runState [] staleRun (staleRun.take 4) [] 5
    "carol" "foo-jkl" "foo-jkl" (run runState staleRun) rfl (listingInv_of_no_listings _ _ rfl) (by decide +kernel)
    staleRun_evals_sale.1).2

theorem runState_canonOK : CanonOK runState := canonIdem_of_mem (by decide +kernel)

/-- the hypotheses of `C08_owner_changes_only_by_consent_along_runs` are met at that position too
(name live, table idempotent, no listings at the start): the owner account changes from bob's to
carol's, so the theorem yields the purchase clause -/
example : ∃ w', AMap.get (run runState (staleRun.take 4 ++ [(5, .buy "carol" "foo-jkl" "foo-jkl")])).names "foo.jkl" = some w' ∧
    (100 : Int) ≤ w'.expires ∧ w'.value = "carol" := by
  obtain ⟨w', hw', hle, -, -⟩ := (C08_owner_changes_only_by_consent_along_runs runState [] staleRun (staleRun.take 4) [] 5
    (.buy "carol" "foo-jkl" "foo-jkl") rfl runState_canonOK (listingInv_of_no_listings _ _ rfl) (by decide +kernel)
    "foo.jkl" _ staleRun_evals_sale.2.1 (by decide +kernel)).2
  refine ⟨w', hw', hle, ?_⟩
  have e : staleRun.take 4 ++ [(5, .buy "carol" "foo-jkl" "foo-jkl")] = staleRun := rfl
  rw [e, staleRun_evals_sale.2.2.1] at hw'; cases hw'; rfl

/-- Observation (not part of C08, which is a safety property): the stale listing can never be
removed — alice's `delist` fails ("This listing has expired": she no longer owns the name), bob's
`delist` fails ("You do not own this listing"), and bob cannot list the name under its own key
("Name already listed") — until the name returns to alice. -/
example : step (run runState (staleRun.take 2)) 3 (.delist "alice" "foo.jkl" "foo.jkl") = none ∧
    step (run runState (staleRun.take 2)) 3 (.delist "bob" "foo.jkl" "foo.jkl") = none ∧
    step (run runState (staleRun.take 2)) 3 (.list "bob" "foo.jkl" "foo.jkl" "5ujkl" (some ("ujkl", 5))) = none :=
  staleRun_evals_stale.2.2.2.2

/-- The quirk of `Buy` (string comparison `name.Value == sender`): bob, owner and lister, "buys" his
own listing signing as "BOB"; the owner string becomes "BOB", the owner account stays bob's, and
the price goes from bob's account to bob's account. -/
example :
    let s0 : State := { runState with bank := [(("bob", "ujkl"), 1000)] }
    let s1 := run s0 [(2, .transfer "alice" "foo.jkl" "foo.jkl" "bob"),
                      (4, .list "bob" "foo-jkl" "foo-jkl" "500ujkl" (some ("ujkl", 500))),
                      (5, .buy "BOB" "foo-jkl" "foo-jkl")]
    ((AMap.get s1.names "foo.jkl").map (·.value), ((AMap.get s1.names "foo.jkl").bind (fun w => acct s1 w.value)),
      bal s1.bank "bob" "ujkl", s1.forsale) = (some "BOB", some "bob", 1000, []) := by decide +kernel

end Canine.Rns
