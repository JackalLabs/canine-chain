/-
C02 — Honest provers can always prove and are never dropped or burned: the challenge always
designates a chunk of the file and the honest Merkle proof of it verifies; a prover whose last
accepted proof is not older than the previous proof window (one accepted proof per window suffices) is
kept, with its record, by `manageProof`, `manageFile` and the whole reward block, and its provider is
not burned; and the same along whole executions (helper lemmas in `Canine/Proofs/HonestRun.lean`),
where the schedule of accepted proofs is the only premise about each block.

The scope is the reward block: a quorum of `report` messages can still remove any prover (C14's
subject), which is why "never dropped" is stated for `manageProof`/`manageFile`/`manageRewards`;
`C02_honest_prover_never_dropped_along_histories` lifts it to whole executions and excludes those
other removals explicitly (`removesOtherwise`).
-/
import Canine.Proofs.Consistency
import Canine.Proofs.HonestRun
import Canine.Proofs.Merkle
import Canine.Generated.PureFns
namespace Canine.Storage

theorem C02_initial_challenge_exists (size chunk : Int) (hs : 1 ≤ size) (hc : 1 ≤ chunk) :
    0 < chunkCount size chunk := by
  unfold chunkCount
  rw [Int.tdiv_eq_ediv_of_nonneg (by omega), Int.tmod_eq_emod_of_nonneg (by omega)]
  have hq : 0 ≤ size / chunk := Int.ediv_nonneg (by omega) (by omega)
  have hd := Int.emod_add_mul_ediv size chunk
  split
  · rename_i hm
    rw [hm] at hd
    have : size / chunk ≠ 0 := by
      intro e; rw [e] at hd; simp at hd; omega
    omega
  · omega

/-- `ResetChunkWithProof` draws among one piece less than `BuildTree` cuts -/
theorem pieces_eq (size chunk : Int) : pieces size chunk = chunkCount size chunk - 1 := by
  unfold pieces chunkCount
  dsimp only
  split <;> omega

theorem C02_challenge_designates_chunk (size chunk r : Int) (hs : 1 ≤ size) (hc : 1 ≤ chunk)
    (hr : 0 < pieces size chunk → 0 ≤ r ∧ r < pieces size chunk) :
    0 ≤ nextChunk size chunk r ∧ nextChunk size chunk r < chunkCount size chunk := by
  have h0 := C02_initial_challenge_exists size chunk hs hc
  unfold nextChunk
  rw [pieces_eq] at hr ⊢
  split
  · rename_i hp
    have := hr hp
    omega
  · omega

/-- wrapper of `Merkle.honest_proof_accepted`: for any hash functions, any chunk list and any
challenged index inside the file, the provider's generated proof of the stored chunk is accepted
by the chain's (fixed) verifier against the file's Merkle root -/
theorem C02_honest_proof_verifies (H S : Merkle.Bytes → Merkle.Bytes) (hashLen : Nat)
    (chunks : List Merkle.Bytes) (i : Nat) (hi : i < chunks.length) :
    Merkle.verifyProof H S (Merkle.fileRoot H S hashLen chunks) i (chunks.getD i []) i
      (Merkle.genProof H hashLen (chunks.mapIdx (fun j c => Merkle.leafData S j c)) i) = true :=
  Merkle.honest_proof_accepted H S hashLen chunks i hi

theorem roundedWindow_eq (h start W : Int) (hh : start ≤ h) :
    roundedWindow h start W = start + (h - start) / W * W := by
  unfold roundedWindow
  dsimp only
  rw [Int.tmod_eq_emod_of_nonneg (by omega)]
  have := Int.emod_add_mul_ediv (h - start) W
  rw [Int.mul_comm] at this
  omega

/-- `ProvenLastBlock` ⇔ the last accepted proof is not older than the start of the previous window
(true for every `W`, so `1 ≤ W` is not even needed) -/
theorem C02_window_iff (h start W lp : Int) (hh : start ≤ h) :
    provenLastBlock h start W lp = true ↔ lp ≥ start + ((h - start) / W - 1) * W := by
  unfold provenLastBlock
  rw [roundedWindow_eq h start W hh, Int.sub_mul]
  simp only [decide_eq_true_eq]
  omega

theorem C02_window_lemma (h start W lp : Int) (hh : start ≤ h) (_hW : 1 ≤ W)
    (hlp : lp ≥ start + ((h - start) / W - 1) * W) : provenLastBlock h start W lp = true :=
  (C02_window_iff h start W lp hh).mpr hlp

theorem C02_young_file_grace (h start W : Int) (hh : h ≤ start + W) : isYoung h start W = true := by
  unfold isYoung; simp only [decide_eq_true_eq]; omega

theorem C02_manageProof_keeps_recent_prover (s : State) (h : Int) (t : Tracker) (file : File)
    (pk : PKey) (p : Proof) (hp : AMap.get s.proofs pk = some p)
    (hok : isYoung h file.start file.proofInterval = true ∨
      provenLastBlock h file.start file.proofInterval p.lastProven = true) :
    manageProof s h t file pk = (s, credit t p.prover file.fileSize, file) :=
  manageProof_recent s h t file pk p hp hok

/-- The schedule statement at one reward block: a prover whose last accepted proof is not older than
the start of the window before the one containing the reward height `h` is kept by `manageProof`:
the state — the file's prover list, every record, every provider's burn counter — is untouched, and
the prover is credited the file's size. -/
theorem C02_never_dropped_nor_burned (s : State) (h : Int) (t : Tracker) (file : File) (pk : PKey)
    (p : Proof) (hp : AMap.get s.proofs pk = some p) (hh : file.start ≤ h)
    (hW : 1 ≤ file.proofInterval)
    (hlp : p.lastProven ≥
      file.start + ((h - file.start) / file.proofInterval - 1) * file.proofInterval) :
    manageProof s h t file pk = (s, credit t p.prover file.fileSize, file) :=
  C02_manageProof_keeps_recent_prover s h t file pk p hp
    (Or.inr (C02_window_lemma h file.start file.proofInterval p.lastProven hh hW hlp))

/-- The arithmetic of `C02_once_per_window_suffices` and `C02_schedule_gives_window_test`: `lp` is
at least the joining height and at least one height in every complete window that begins at or after
it; then `lp` is not older than the start of the `q`-th window whenever `q` windows are complete at
`h`. -/
theorem window_core (st W h lp join q : Int) (hj : join ≤ lp) (hq : 1 ≤ q) (hqh : st + q * W ≤ h)
    (hevery : ∀ j : Int, 0 ≤ j → join ≤ st + j * W → st + (j + 1) * W ≤ h →
      ∃ x, x ≤ lp ∧ st + j * W ≤ x) : st + (q - 1) * W ≤ lp := by
  by_cases hjw : join ≤ st + (q - 1) * W
  · obtain ⟨x, hx, hx1⟩ := hevery (q - 1) (by omega) hjw (by rw [Int.sub_add_cancel]; exact hqh)
    omega
  · omega

/-- "At least one accepted proof in every proof window" gives the bound of
`C02_never_dropped_nor_burned` at *every* reward height `h`.

`accepted x` = a proof of the prover was accepted at height `x`; the prover joined at `join`
(its first accepted proof, which sets `lastProven := join`); `lp`, the `lastProven` seen by the
reward block at height `h`, is at least every accepted height before `h` (each acceptance sets
`lastProven` to the current height, and attestations only raise it).  The only windows the prover is
asked about are the *complete* ones (`start + (j+1)·W ≤ h`) that begin at or after it joined. -/
theorem C02_once_per_window_suffices (accepted : Int → Prop) (start W h join lp : Int)
    (hW : 1 ≤ W) (hstart : start ≤ join) (hjoin : accepted join) (hjoinlt : join < h)
    (hlp : ∀ x, accepted x → x < h → x ≤ lp)
    (hevery : ∀ j : Int, 0 ≤ j → join ≤ start + j * W → start + (j + 1) * W ≤ h →
      ∃ x, accepted x ∧ start + j * W ≤ x ∧ x < start + (j + 1) * W) :
    lp ≥ start + ((h - start) / W - 1) * W := by
  have hj := hlp join hjoin hjoinlt
  have hq0 : 0 ≤ (h - start) / W := Int.ediv_nonneg (by omega) (by omega)
  have hqh := Int.ediv_mul_le (h - start) (by omega : W ≠ 0)
  generalize (h - start) / W = q at *
  by_cases hq : q = 0
  · subst hq; omega
  · exact window_core start W h lp join q hj (by omega) (by omega) (fun j hj0 hj1 hj2 =>
      let ⟨x, hx, hx1, hx2⟩ := hevery j hj0 hj1 hj2
      ⟨x, hlp x hx (by omega), hx1⟩)

/-- `C02_never_dropped_nor_burned` with the bound of `C02_once_per_window_suffices`: an honest
schedule is kept at every reward block -/
theorem C02_honest_schedule_kept (s : State) (h : Int) (t : Tracker) (file : File) (pk : PKey)
    (p : Proof) (accepted : Int → Prop) (join : Int)
    (hp : AMap.get s.proofs pk = some p) (hW : 1 ≤ file.proofInterval)
    (hstart : file.start ≤ join) (hjoin : accepted join) (hjoinlt : join < h)
    (hlp : ∀ x, accepted x → x < h → x ≤ p.lastProven)
    (hevery : ∀ j : Int, 0 ≤ j → join ≤ file.start + j * file.proofInterval →
      file.start + (j + 1) * file.proofInterval ≤ h →
      ∃ x, accepted x ∧ file.start + j * file.proofInterval ≤ x ∧
        x < file.start + (j + 1) * file.proofInterval) :
    manageProof s h t file pk = (s, credit t p.prover file.fileSize, file) :=
  C02_never_dropped_nor_burned s h t file pk p hp (by omega) hW
    (C02_once_per_window_suffices accepted file.start file.proofInterval h join p.lastProven hW
      hstart hjoin hjoinlt hlp hevery)

/-- Lift to `manageFile`: if every listed proof key has a recent record, the file's management
leaves the whole state unchanged (in particular `files`, `files2`, `proofs`, `providers`) —
provided the file has a prover or is young; see `C02_empty_old_file_is_dropped` for the other case. -/
theorem C02_manageFile_all_honest_unchanged (s : State) (h : Int) (t : Tracker) (file : File)
    (hall : ∀ pk ∈ file.proofs, Recent s h file pk)
    (hne : file.proofs ≠ [] ∨ isYoung h file.start file.proofInterval = true) :
    (manageFile s h t file).1 = s := by
  rcases manageFile_cases s h t file with ⟨hnil, hy, _⟩ | ⟨_, e⟩
  · rcases hne with hne | hne
    · exact absurd hnil hne
    · rw [hne] at hy; cases hy
  · obtain ⟨t', ht'⟩ := runProofs_all_recent h file file.proofs s t hall
    rw [e, ht']

theorem C02_empty_old_file_is_dropped (s : State) (h : Int) (t : Tracker) (file : File)
    (hnil : file.proofs = []) (hold : isYoung h file.start file.proofInterval = false) :
    manageFile s h t file = (removeFile s file.key, t) := by
  rcases manageFile_cases s h t file with ⟨_, _, e⟩ | ⟨hne, _⟩
  · exact e
  · rcases hne with hne | hne
    · exact absurd hnil hne
    · rw [hne] at hold; cases hold

/-- `manageFile` among dishonest co-provers: whatever happens to the other proof keys of the file,
a recent prover stays listed in the stored file and its record is untouched; and a provider none of
whose keys in this file is stale is not burned.  (`hget`: the file is the stored one, as in
`C01_manageFile_never_adds_provers`.) -/
theorem C02_manageFile_keeps_recent_provers (s : State) (h : Int) (t : Tracker) (file : File)
    (hget : AMap.get s.files file.key = some file) :
    (∀ pk ∈ file.proofs, Recent s h file pk →
      AMap.get (manageFile s h t file).1.proofs pk = AMap.get s.proofs pk ∧
      ∃ f', AMap.get (manageFile s h t file).1.files file.key = some f' ∧ pk ∈ f'.proofs) ∧
    (∀ x, (∀ pk ∈ file.proofs, pk.1 = x → Recent s h file pk) →
      AMap.get (manageFile s h t file).1.providers x = AMap.get s.providers x) :=
  manageFile_keeps_recent s h t file hget

/-- The whole reward block on a consistent state, among arbitrary other files and provers: a prover
with a recent record is still listed in its file afterwards, with its record untouched. -/
theorem C02_honest_prover_survives_block (s s' : State) (h now : Int) (hc : Consistent s)
    (hs : manageRewards s h now = .ok s') (k : FKey) (f : File) (pk : PKey)
    (hf : AMap.get s.files k = some f) (hpk : pk ∈ f.proofs) (hr : Recent s h f pk) :
    AMap.get s'.proofs pk = AMap.get s.proofs pk ∧
    ∃ f', AMap.get s'.files k = some f' ∧ pk ∈ f'.proofs :=
  (manageRewards_keep hc hs).provers k f pk hf hpk hr

/-- The whole reward block on a consistent state does not burn a provider all of whose listed proof
keys, in every file, are recent. -/
theorem C02_honest_provider_not_burned_by_block (s s' : State) (h now : Int) (hc : Consistent s)
    (hs : manageRewards s h now = .ok s') (x : String)
    (hx : ∀ k f, AMap.get s.files k = some f → ∀ pk ∈ f.proofs, pk.1 = x → Recent s h f pk) :
    AMap.get s'.providers x = AMap.get s.providers x :=
  (manageRewards_keep hc hs).providers x hx

/-- if all provers of all files are recent and no file is empty and old, the file pass of the reward
block leaves the state as it is: the block only releases gauges and pays -/
theorem block_all_honest (s s' : State) (h now : Int) (hc : Consistent s)
    (hs : manageRewards s h now = .ok s')
    (hall : ∀ k f, AMap.get s.files k = some f →
      (∀ pk ∈ f.proofs, Recent s h f pk) ∧
      (f.proofs ≠ [] ∨ isYoung h f.start f.proofInterval = true)) : PayRel s s' := by
  have hloop : (filePass h s.files s []).1 = s := by
    apply hc.filePass_ind h (fun a => a.1 = s)
    · intro a kv hkv _ _ ha
      obtain ⟨h1, h2⟩ := hall _ _ (AMap.get_of_mem_wf hc.wf hkv)
      show (manageFile a.1 h a.2 kv.2).1 = s
      rw [ha]
      exact C02_manageFile_all_honest_unchanged s h a.2 kv.2 h1 h2
    · rfl
  exact hloop ▸ (manageRewards_out hc hs).2.1

theorem C02_block_all_honest_unchanged (s s' : State) (h now : Int) (hc : Consistent s)
    (hs : manageRewards s h now = .ok s')
    (hall : ∀ k f, AMap.get s.files k = some f →
      (∀ pk ∈ f.proofs, Recent s h f pk) ∧
      (f.proofs ≠ [] ∨ isYoung h f.start f.proofInterval = true)) :
    s'.files = s.files ∧ s'.files2 = s.files2 ∧ s'.proofs = s.proofs ∧ s'.providers = s.providers :=
  let rel := block_all_honest s s' h now hc hs hall
  ⟨rel.files, rel.files2, rel.proofs, rel.providers⟩

/-! ## Non-vacuity: window 50, reward every 11 blocks, one proof in the last block of each window -/

/-- file started at height 10 with window 50: windows [10,60), [60,110), [110,160), …; bob proves at
the last block of each window: 59, 109, 159, … -/
def schedAccepted (x : Int) : Prop := 59 ≤ x ∧ x % 50 = 9

-- the schedule has a proof in every window (hypothesis `hevery` of `C02_once_per_window_suffices`)
example : ∀ j : Int, 0 ≤ j → (59 : Int) ≤ 10 + j * 50 → 10 + (j + 1) * 50 ≤ 154 →
    ∃ x, schedAccepted x ∧ 10 + j * 50 ≤ x ∧ x < 10 + (j + 1) * 50 := by
  intro j _ _ _
  exact ⟨10 + (j + 1) * 50 - 1, by unfold schedAccepted; omega⟩

-- reward heights are the multiples of 11; at each of them the last accepted proof satisfies the bound
example : (66 : Int) % 11 = 0 ∧ (59 : Int) ≥ 10 + ((66 - 10) / 50 - 1) * 50 := by decide +kernel
example : (110 : Int) % 11 = 0 ∧ (109 : Int) ≥ 10 + ((110 - 10) / 50 - 1) * 50 := by decide +kernel
-- the worst case: the reward block just before the proof of the current window
example : (154 : Int) % 11 = 0 ∧ (109 : Int) ≥ 10 + ((154 - 10) / 50 - 1) * 50 := by decide +kernel
example : provenLastBlock 154 10 50 109 = true := by decide
example : provenLastBlock 165 10 50 159 = true := by decide
-- a prover that skipped the window [60,110) is stale at 121
example : provenLastBlock 121 10 50 59 = false := by decide

def schedParams : Params :=
  { proofWindow := 50, checkWindow := 11, chunkSize := 1024, pricePerTbPerMonth := 8,
    collateralPrice := 1000, attestFormSize := 5, attestMinToPass := 3, referralCommission := 25,
    polRatio := 40 }

def schedKey : FKey := ("aa", "alice", 10)

/-- two provers: bob (honest, last proof at 109) and carol (last proof at 59) -/
def schedFile : File :=
  { merkle := "aa", owner := "alice", start := 10, expires := 0, fileSize := 2500,
    proofInterval := 50, proofType := 0, proofs := [("bob", schedKey), ("carol", schedKey)],
    maxProofs := 3, note := "{}" }

def schedProvider (a : String) : Provider :=
  { address := a, ip := "http://x", totalspace := "1000000", burned := some 0, creator := a,
    keybase := "", claimers := [] }

def schedRecord (a : String) (lastProven challenge : Int) : Proof :=
  { prover := a, merkle := "aa", owner := "alice", start := 10, lastProven := lastProven,
    chunkToProve := challenge }

def schedState : State :=
  { files := [(schedKey, schedFile)], files2 := [(schedKey, schedFile)],
    proofs := [(("bob", schedKey), schedRecord "bob" 109 1), (("carol", schedKey), schedRecord "carol" 59 2)],
    providers := [("bob", schedProvider "bob"), ("carol", schedProvider "carol")],
    payinfo := [], collateral := [], gauges := [], attests := [], reports := [], bank := [],
    params := schedParams, moduleAcc := "storage", collateralAcc := "collateral", polAcc := "pol",
    feeAcc := "fee", blocked := [] }

-- the hypotheses of `C02_never_dropped_nor_burned` hold for bob at the reward height 154 …
example : AMap.get schedState.proofs ("bob", schedKey) = some (schedRecord "bob" 109 1) ∧
    schedFile.start ≤ 154 ∧ 1 ≤ schedFile.proofInterval ∧
    (109 : Int) ≥ schedFile.start + ((154 - schedFile.start) / schedFile.proofInterval - 1)
      * schedFile.proofInterval := by decide +kernel
-- … so he is kept and credited, while carol (who skipped a window) is dropped and burned
example : manageProof schedState 154 [] schedFile ("bob", schedKey)
    = (schedState, [("bob", 2500)], schedFile) := rfl
example : (AMap.get (manageFile schedState 154 [] schedFile).1.files schedKey).map (·.proofs)
    = some [("bob", schedKey)] := by decide +kernel
example : AMap.get (manageFile schedState 154 [] schedFile).1.proofs ("bob", schedKey)
    = AMap.get schedState.proofs ("bob", schedKey) := by decide +kernel
example : (AMap.get (manageFile schedState 154 [] schedFile).1.providers "bob").map (·.burned)
    = some (some 0) := by decide +kernel
example : (AMap.get (manageFile schedState 154 [] schedFile).1.providers "carol").map (·.burned)
    = some (some 1) := by decide +kernel
example : (manageFile schedState 154 [] schedFile).2 = [("bob", 2500)] := by decide +kernel
-- with only honest provers listed the whole state is untouched
example : (manageFile { schedState with files := [(schedKey, { schedFile with proofs := [("bob", schedKey)] })] }
    154 [] { schedFile with proofs := [("bob", schedKey)] }).1
    = { schedState with files := [(schedKey, { schedFile with proofs := [("bob", schedKey)] })] } := by
  decide +kernel

/-- `schedState` after the reward block at height 154: carol dropped and burned -/
def schedState' : State := (manageFile schedState 154 [] schedFile).1

/-- the block at height 154 (a multiple of the reward interval 11) runs without panic -/
theorem sched_block : manageRewards schedState 154 0 = .ok schedState' := by
  have h : (manageRewards schedState 154 0).toOption = some schedState' := by decide +kernel
  cases hm : manageRewards schedState 154 0 with
  | ok v => rw [hm] at h; cases h; rfl
  | error e => rw [hm] at h; cases h

theorem schedState_consistent : Consistent schedState :=
  .of_forall _ (by decide +kernel) (by decide +kernel) (by decide +kernel) (by decide +kernel)

theorem sched_bob_recent : Recent schedState 154 schedFile ("bob", schedKey) :=
  ⟨schedRecord "bob" 109 1, by decide +kernel, Or.inr (by decide +kernel)⟩

-- all hypotheses of `C02_honest_prover_survives_block` hold for bob; its conclusion, instantiated:
example : AMap.get schedState'.proofs ("bob", schedKey) = AMap.get schedState.proofs ("bob", schedKey) ∧
    ∃ f', AMap.get schedState'.files schedKey = some f' ∧ ("bob", schedKey) ∈ f'.proofs :=
  C02_honest_prover_survives_block schedState schedState' 154 0 schedState_consistent sched_block
    schedKey schedFile ("bob", schedKey) (by decide +kernel) (by decide +kernel) sched_bob_recent

/-- `getRoundedWindow`, `ProvenLastBlock`, `ProvenThisBlock` and `IsYoung`, translated from
x/storage/types/file.go on every run (Generated/PureFns.lean), are the model's window functions; the
`_inputs` lists say they read only the receiver fields `Start` and `ProofInterval`. -/
theorem C02_generated_window_functions_are_the_model (h start window lp : Int) :
    Generated.Pure.getRoundedWindow h start window = roundedWindow h start window ∧
    Generated.Pure.ProvenLastBlock start window h lp = provenLastBlock h start window lp ∧
    Generated.Pure.ProvenThisBlock start window h lp = provenThisBlock h start window lp ∧
    Generated.Pure.IsYoung start window h = isYoung h start window ∧
    Generated.Pure.getRoundedWindow_inputs = [] ∧
    Generated.Pure.ProvenLastBlock_inputs = ["f.Start", "f.ProofInterval"] ∧
    Generated.Pure.ProvenThisBlock_inputs = ["f.Start", "f.ProofInterval"] ∧
    Generated.Pure.IsYoung_inputs = ["f.Start", "f.ProofInterval"] :=
  ⟨rfl, rfl, rfl, rfl, rfl, rfl, rfl, rfl⟩

/-- `A` = the heights at which proofs of the prover were accepted so far (`join ∈ A`: the first of
them, the joining height); `lp`, the stored
`lastProven`, is at least each of them.  If every complete proof window `[st + j·W, st + (j+1)·W)`
that begins at or after `join` and ends at or before the reward height `h` contains a height of `A`,
then at `h` the file is still in its first window (`isYoung`, not judged) or the record passes
`ProvenLastBlock`. -/
theorem C02_schedule_gives_window_test (st W h lp join : Int) (A : List Int) (hW : 1 ≤ W)
    (hjoin : join ∈ A) (hlp : ∀ x ∈ A, x ≤ lp)
    (hevery : ∀ j : Int, 0 ≤ j → join ≤ st + j * W → st + (j + 1) * W ≤ h →
      ∃ x ∈ A, st + j * W ≤ x ∧ x < st + (j + 1) * W) :
    isYoung h st W = true ∨ provenLastBlock h st W lp = true := by
  by_cases hy : h ≤ st + W
  · exact Or.inl (C02_young_file_grace h st W hy)
  · right
    rw [C02_window_iff h st W lp (by omega)]
    have hq1 : 1 ≤ (h - st) / W := Int.le_ediv_of_mul_le (by omega) (by omega)
    have hqh := Int.ediv_mul_le (h - st) (by omega : W ≠ 0)
    exact window_core st W h lp join _ (hlp join hjoin) hq1 (by omega) (fun j hj0 hj1 hj2 =>
      let ⟨x, hx, hx1, _⟩ := hevery j hj0 hj1 hj2
      ⟨x, hlp x hx, hx1⟩)

/-- `C02_schedule_gives_window_test` for the file stored under `k` in a consistent state (its start
is the key's) -/
theorem windowOK_of_schedule {s : State} (hcs : Consistent s) {k : FKey} {f : File}
    (hf : AMap.get s.files k = some f) {h lp join : Int} {A : List Int} (hW : 1 ≤ f.proofInterval)
    (hjoin : join ∈ A) (hlp : ∀ x ∈ A, x ≤ lp)
    (hevery : ∀ j : Int, 0 ≤ j → join ≤ k.2.2 + j * f.proofInterval →
      k.2.2 + (j + 1) * f.proofInterval ≤ h →
      ∃ x ∈ A, k.2.2 + j * f.proofInterval ≤ x ∧ x < k.2.2 + (j + 1) * f.proofInterval) :
    WindowOK h f lp := by
  have hst : f.start = k.2.2 := by rw [← hcs.key k f hf]; rfl
  unfold WindowOK
  rw [hst]
  exact C02_schedule_gives_window_test k.2.2 f.proofInterval h lp join A hW hjoin hlp hevery

/-- **C02 along whole executions, one file.**

Setting.  `s0` is any consistent state (every reachable state is one: `consistent_run`) in which
prover `c` is listed on the file `f0` stored at key `k = (merkle, owner, start)` and has a proof
record `p0`; `W = f0.proofInterval ≥ 1` is the file's own proof window, fixed when it was posted.
`evs` is any sequence of delivered messages, begin-blockers and governance parameter changes
(`setParams`: `ProofWindow`, `CheckWindow`, … may all move during the run) that goes through.

Hypotheses about the history only:
* `hmono`  heights do not decrease along the run and are at least `p0.lastProven` (the record is
  not from the future);
* `hno`    no event of `removesOtherwise` (the owner's `deleteFile` of `k`; the owner's re-`postFile`
  of the same Merkle root in the file's start block; a `report` against `(c, k)` completing its
  quorum) — none of them is a reward block, `step_local` proves there is no other message that
  unlists `(c, k)` or deletes its record;
* `hsched` the schedule: for every begin-blocker of the run that runs the reward block (height `h`,
  `h % CheckWindow` not positive with the `CheckWindow` in force at that moment) and every complete
  proof window `[start + j·W, start + (j+1)·W)`, `j ≥ 0`, that begins at or after the joining height
  `p0.lastProven` and ends at or before `h`: one of the heights `p0.lastProven`, or a height at which
  a `postProof` of `c` for `k` was accepted earlier in the run, lies in that window.

Conclusions.
1. (derived, not assumed) at every reward block of the run the file is still in its first window
   (`isYoung`: the chain does not judge it) or the prover's record passes the chain's test
   `ProvenLastBlock` — i.e. `Recent`, the premise of `C02_honest_prover_survives_block`;
2. in every state of the run (before each event, and at the end) `c` is still listed on the file
   stored at `k`, that file still has proof window `W`, and the proof record of `(c, k)` exists. -/
theorem C02_honest_prover_never_dropped_along_histories
    (c : String) (k : FKey) (evs : List Event) (s0 s' : State) (f0 : File) (p0 : Proof)
    (hc : Consistent s0)
    (hf0 : AMap.get s0.files k = some f0) (hl0 : (c, k) ∈ f0.proofs)
    (hp0 : AMap.get s0.proofs (c, k) = some p0)
    (hW : 1 ≤ f0.proofInterval)
    (hrun : evs.foldlM applyEvent s0 = some s')
    (hmono : (p0.lastProven :: evs.filterMap Event.height).Pairwise (· ≤ ·))
    (hno : ∀ se ∈ runTrace s0 evs, ¬ removesOtherwise c k se.1 se.2)
    (hsched : ∀ pre s h now post, runTrace s0 evs = pre ++ (s, Event.block h now) :: post →
      rewardHeight s h →
      ∀ j : Int, 0 ≤ j → p0.lastProven ≤ k.2.2 + j * f0.proofInterval →
        k.2.2 + (j + 1) * f0.proofInterval ≤ h →
        ∃ x ∈ p0.lastProven :: acceptedIn c k pre,
          k.2.2 + j * f0.proofInterval ≤ x ∧ x < k.2.2 + (j + 1) * f0.proofInterval) :
    (∀ pre s h now post, runTrace s0 evs = pre ++ (s, Event.block h now) :: post → rewardHeight s h →
      ∃ f, AMap.get s.files k = some f ∧ (c, k) ∈ f.proofs ∧ Recent s h f (c, k)) ∧
    (∀ s ∈ runStates s0 evs s', ∃ f p, AMap.get s.files k = some f ∧ (c, k) ∈ f.proofs ∧
      f.proofInterval = f0.proofInterval ∧ AMap.get s.proofs (c, k) = some p) := by
  rw [List.pairwise_cons] at hmono
  obtain ⟨hA0, hmono⟩ := hmono
  -- the schedule gives the window test for every `lastProven` dominating the accepted heights
  have hwin : ∀ pre s h now post, runTrace s0 evs = pre ++ (s, Event.block h now) :: post →
      rewardHeight s h → Consistent s → ∀ f, AMap.get s.files k = some f →
        f.proofInterval = f0.proofInterval →
        ∀ lp, (∀ x ∈ [p0.lastProven] ++ acceptedIn c k pre, x ≤ lp) → WindowOK h f lp := by
    intro pre s h now post hsplit hrh hcs f hf hWf lp hlp
    exact windowOK_of_schedule hcs hf (hWf ▸ hW) List.mem_cons_self hlp
      (hWf ▸ hsched pre s h now post hsplit hrh)
  have h0 : Held c k f0.proofInterval s0 [p0.lastProven] :=
    ⟨f0, p0, hf0, hl0, rfl, hp0, fun x hx => Int.le_of_eq (List.mem_singleton.mp hx)⟩
  obtain ⟨⟨_, hend⟩, hall⟩ := held_run c k f0.proofInterval evs s0 s' [p0.lastProven] hc h0
    (by simp) hrun hmono
    (fun x hx h hh => by rw [List.mem_singleton.mp hx]; exact hA0 h hh) hno hwin
  constructor
  · intro pre s h now post hsplit hrh
    obtain ⟨hcs, f, p, hf, hl, hWf, hp, hb⟩ := hall pre s _ post hsplit
    exact ⟨f, hf, hl, p, hp, hwin pre s h now post hsplit hrh hcs f hf hWf p.lastProven hb⟩
  · intro s hs
    rcases runStates_cases hs with e | ⟨pre, e, post, hsplit⟩
    · subst e
      obtain ⟨f, p, hf, hl, hWf, hp, _⟩ := hend
      exact ⟨f, p, hf, hl, hWf, hp⟩
    · obtain ⟨_, f, p, hf, hl, hWf, hp, _⟩ := hall pre s e post hsplit
      exact ⟨f, p, hf, hl, hWf, hp⟩

/-- Under the hypotheses of `C02_honest_prover_never_dropped_along_histories`: a begin-blocker of the
run leaves `c`'s provider record (burn counter included) untouched whenever `c`'s proof keys on the
*other* files pass the window test at that block — so any increase of the counter is attributable to
another file.  (`C02_honest_provider_never_burned_along_histories` below removes the premise about
the other files by asking the schedule of all of them.) -/
theorem C02_honest_prover_not_burned_on_account_of_file
    (c : String) (k : FKey) (evs : List Event) (s0 s' : State) (f0 : File) (p0 : Proof)
    (hc : Consistent s0)
    (hf0 : AMap.get s0.files k = some f0) (hl0 : (c, k) ∈ f0.proofs)
    (hp0 : AMap.get s0.proofs (c, k) = some p0)
    (hW : 1 ≤ f0.proofInterval)
    (hrun : evs.foldlM applyEvent s0 = some s')
    (hmono : (p0.lastProven :: evs.filterMap Event.height).Pairwise (· ≤ ·))
    (hno : ∀ se ∈ runTrace s0 evs, ¬ removesOtherwise c k se.1 se.2)
    (hsched : ∀ pre s h now post, runTrace s0 evs = pre ++ (s, Event.block h now) :: post →
      rewardHeight s h →
      ∀ j : Int, 0 ≤ j → p0.lastProven ≤ k.2.2 + j * f0.proofInterval →
        k.2.2 + (j + 1) * f0.proofInterval ≤ h →
        ∃ x ∈ p0.lastProven :: acceptedIn c k pre,
          k.2.2 + j * f0.proofInterval ≤ x ∧ x < k.2.2 + (j + 1) * f0.proofInterval) :
    ∀ pre s h now post sa, runTrace s0 evs = pre ++ (s, Event.block h now) :: post →
      applyEvent s (.block h now) = some sa →
      (∀ k' f', k' ≠ k → AMap.get s.files k' = some f' → (c, k') ∈ f'.proofs →
        Recent s h f' (c, k')) →
      AMap.get sa.providers c = AMap.get s.providers c := by
  obtain ⟨hrec, _⟩ := C02_honest_prover_never_dropped_along_histories c k evs s0 s' f0 p0 hc hf0 hl0
    hp0 hW hrun hmono hno hsched
  intro pre s h now post sa hsplit hs hothers
  have hcs : Consistent s := consistent_of_split hc hrun hsplit
  apply block_keeps_provider hcs (applyEvent_block hs) c
  intro hrh k' f' hf' pk hpk hpc
  obtain rfl : pk = (c, k') := Prod.ext hpc (hcs.listed k' f' hf' pk hpk)
  by_cases hkk : k' = k
  · subst hkk
    obtain ⟨f, hf, _, hr⟩ := hrec pre s h now post hsplit hrh
    rw [hf'] at hf; cases hf
    exact hr
  · exact hothers k' f' hkk hf' hpk

/-- Because heights do not decrease, the schedule hypothesis of
`C02_honest_prover_never_dropped_along_histories` may be stated with *all* the accepted heights of
the run, wherever they occur:
"the heights at which a `postProof` of `c` for `k` was accepted in the run, plus the joining height,
contain one height in every complete proof window of the file that ends at or before a reward
block" (an accepted height below the end of such a window is below the block's height, hence
occurred before the block). -/
theorem C02_honest_prover_never_dropped_whole_run_schedule
    (c : String) (k : FKey) (evs : List Event) (s0 s' : State) (f0 : File) (p0 : Proof)
    (hc : Consistent s0)
    (hf0 : AMap.get s0.files k = some f0) (hl0 : (c, k) ∈ f0.proofs)
    (hp0 : AMap.get s0.proofs (c, k) = some p0)
    (hW : 1 ≤ f0.proofInterval)
    (hrun : evs.foldlM applyEvent s0 = some s')
    (hmono : (p0.lastProven :: evs.filterMap Event.height).Pairwise (· ≤ ·))
    (hno : ∀ se ∈ runTrace s0 evs, ¬ removesOtherwise c k se.1 se.2)
    (hsched : ∀ s h now, (s, Event.block h now) ∈ runTrace s0 evs → rewardHeight s h →
      ∀ j : Int, 0 ≤ j → p0.lastProven ≤ k.2.2 + j * f0.proofInterval →
        k.2.2 + (j + 1) * f0.proofInterval ≤ h →
        ∃ x ∈ p0.lastProven :: acceptedIn c k (runTrace s0 evs),
          k.2.2 + j * f0.proofInterval ≤ x ∧ x < k.2.2 + (j + 1) * f0.proofInterval) :
    (∀ pre s h now post, runTrace s0 evs = pre ++ (s, Event.block h now) :: post → rewardHeight s h →
      ∃ f, AMap.get s.files k = some f ∧ (c, k) ∈ f.proofs ∧ Recent s h f (c, k)) ∧
    (∀ s ∈ runStates s0 evs s', ∃ f p, AMap.get s.files k = some f ∧ (c, k) ∈ f.proofs ∧
      f.proofInterval = f0.proofInterval ∧ AMap.get s.proofs (c, k) = some p) := by
  apply C02_honest_prover_never_dropped_along_histories c k evs s0 s' f0 p0 hc hf0 hl0 hp0 hW hrun
    hmono hno
  intro pre s h now post hsplit hrh j hj hjoin hjw
  have hmem : (s, Event.block h now) ∈ runTrace s0 evs := by rw [hsplit]; simp
  obtain ⟨x, hx, hx1, hx2⟩ := hsched s h now hmem hrh j hj hjoin hjw
  refine ⟨x, ?_, hx1, hx2⟩
  rcases List.mem_cons.mp hx with hx | hx
  · rw [hx]; exact List.mem_cons_self
  · apply List.mem_cons_of_mem
    rw [hsplit, acceptedIn_append] at hx
    rcases List.mem_append.mp hx with hx | hx
    · exact hx
    · have := accepted_ge_of_split hrun (List.pairwise_cons.mp hmono).2 hsplit c k h rfl x hx
      omega

/-! ### Non-vacuity of `C02_honest_prover_never_dropped_along_histories`

A file started at height 10 with proof window 4 (windows [10,14), [14,18), [18,22)); bob joined at 10
and gets one proof accepted per window (12, 15, 19); the begin-blocker runs the reward block at 15
(check window 5) and, after governance moved `ProofWindow` to 7 and `CheckWindow` to 10, at 20. -/

def runParams : Params := { schedParams with proofWindow := 4, checkWindow := 5 }
def runParams' : Params := { schedParams with proofWindow := 7, checkWindow := 10 }

def runFile : File :=
  { merkle := "aa", owner := "alice", start := 10, expires := 0, fileSize := 2500,
    proofInterval := 4, proofType := 0, proofs := [("bob", schedKey)], maxProofs := 3, note := "{}" }

/-- bob listed on the file, last accepted proof at `lp`, module parameters `ps` -/
def runState (lp : Int) (ps : Params) : State :=
  { files := [(schedKey, runFile)], files2 := [(schedKey, runFile)],
    proofs := [(("bob", schedKey), schedRecord "bob" lp 0)],
    providers := [("bob", schedProvider "bob")],
    payinfo := [], collateral := [], gauges := [], attests := [], reports := [], bank := [],
    params := ps, moduleAcc := "storage", collateralAcc := "collateral", polAcc := "pol",
    feeAcc := "fee", blocked := [] }

def runProof (h : Int) : Event := .msg h 0 (.postProof "bob" "aa" "alice" 10 0 true 0)

def runEvents : List Event :=
  [runProof 12, .block 15 0, runProof 15, .setParams runParams', runProof 19, .block 20 0]

theorem runState_consistent : Consistent (runState 10 runParams) :=
  .of_forall _ (by decide +kernel) (by decide +kernel) (by decide +kernel) (by decide +kernel)

theorem run_step1 : applyEvent (runState 10 runParams) (runProof 12) = some (runState 12 runParams) := by
  decide +kernel
theorem run_step2 : applyEvent (runState 12 runParams) (.block 15 0) = some (runState 12 runParams) := by
  decide +kernel
theorem run_step3 : applyEvent (runState 12 runParams) (runProof 15) = some (runState 15 runParams) := by
  decide +kernel
theorem run_step4 : applyEvent (runState 15 runParams) (.setParams runParams') = some (runState 15 runParams') := rfl
theorem run_step5 : applyEvent (runState 15 runParams') (runProof 19) = some (runState 19 runParams') := by
  decide +kernel
theorem run_step6 : applyEvent (runState 19 runParams') (.block 20 0) = some (runState 19 runParams') := by
  decide +kernel

theorem run_goes_through : runEvents.foldlM applyEvent (runState 10 runParams) = some (runState 19 runParams') :=
  foldlM_cons_some run_step1 <| foldlM_cons_some run_step2 <| foldlM_cons_some run_step3 <|
    foldlM_cons_some run_step4 <| foldlM_cons_some run_step5 <| foldlM_cons_some run_step6 rfl

theorem run_trace : runTrace (runState 10 runParams) runEvents =
    [(runState 10 runParams, runProof 12), (runState 12 runParams, .block 15 0),
     (runState 12 runParams, runProof 15), (runState 15 runParams, .setParams runParams'),
     (runState 15 runParams', runProof 19), (runState 19 runParams', .block 20 0)] := by
  rw [runEvents, trace_cons _ run_step1, trace_cons _ run_step2, trace_cons _ run_step3,
    trace_cons _ run_step4, trace_cons _ run_step5, trace_cons _ run_step6]
  rfl

/-- The schedule of the example at one position of its trace: at a begin-blocker, bob alone is
stored, and every window of the file that is complete by then contains the joining height 10 or a
height at which a proof of bob was accepted before. -/
def runSchedAt (pre : List (State × Event)) (x : State × Event) : Prop :=
  ∀ s h now, x = (s, Event.block h now) → (∃ lp ps, s = runState lp ps) ∧
    ∀ j : Int, 0 ≤ j → 10 + (j + 1) * 4 ≤ h →
      ∃ y ∈ (10 : Int) :: acceptedIn "bob" schedKey pre, 10 + j * 4 ≤ y ∧ y < 10 + (j + 1) * 4

theorem run_schedule {pre post : List (State × Event)} {x : State × Event}
    (hsplit : runTrace (runState 10 runParams) runEvents = pre ++ x :: post) : runSchedAt pre x := by
  have hacc : acceptedIn "bob" schedKey
      [(runState 10 runParams, runProof 12), (runState 12 runParams, .block 15 0),
       (runState 12 runParams, runProof 15), (runState 15 runParams, .setParams runParams'),
       (runState 15 runParams', runProof 19)] = [12, 15, 19] := by decide +kernel
  rw [run_trace] at hsplit
  refine forallSplits_imp runSchedAt _ [] ?_ pre x post hsplit
  refine ⟨?_, ?_, ?_, ?_, ?_, ?_, trivial⟩
  · intro s h now e; cases e
  · intro s h now e
    cases e
    refine ⟨⟨_, _, rfl⟩, fun j hj0 hj2 => ?_⟩
    obtain rfl : j = 0 := by omega
    exact ⟨10, List.mem_cons_self, by decide, by decide⟩
  · intro s h now e; cases e
  · intro s h now e; cases e
  · intro s h now e; cases e
  · intro s h now e
    cases e
    refine ⟨⟨_, _, rfl⟩, fun j hj0 hj2 => ?_⟩
    by_cases hj : j = 0
    · subst hj; exact ⟨10, List.mem_cons_self, by decide, by decide⟩
    · obtain rfl : j = 1 := by omega
      exact ⟨15, List.mem_cons_of_mem _ (hacc ▸ by decide), by decide, by decide⟩

/-- All hypotheses of `C02_honest_prover_never_dropped_along_histories` hold for this run (a
file of window 4, one accepted proof in each of three windows, two reward blocks, a parameter change
in between), so its conclusion does: bob passes the chain's test at both reward blocks and is listed
with his record in all seven states. -/
theorem C02_honest_run_example :
    (∀ pre s h now post,
      runTrace (runState 10 runParams) runEvents = pre ++ (s, Event.block h now) :: post →
      rewardHeight s h →
      ∃ f, AMap.get s.files schedKey = some f ∧ ("bob", schedKey) ∈ f.proofs ∧
        Recent s h f ("bob", schedKey)) ∧
    (∀ s ∈ runStates (runState 10 runParams) runEvents (runState 19 runParams'),
      ∃ f p, AMap.get s.files schedKey = some f ∧ ("bob", schedKey) ∈ f.proofs ∧
        f.proofInterval = runFile.proofInterval ∧ AMap.get s.proofs ("bob", schedKey) = some p) := by
  apply C02_honest_prover_never_dropped_along_histories "bob" schedKey runEvents
    (runState 10 runParams) (runState 19 runParams') runFile (schedRecord "bob" 10 0)
    runState_consistent (by decide +kernel) (by decide +kernel) (by decide +kernel) (by decide +kernel)
    run_goes_through
  · -- heights: 10 ≤ 12 ≤ 15 ≤ 15 ≤ 19 ≤ 20
    show ([10, 12, 15, 15, 19, 20] : List Int).Pairwise (· ≤ ·)
    decide
  · -- no deleteFile / postFile / report in the run
    rw [run_trace]
    intro se hse
    simp only [List.mem_cons, List.not_mem_nil, or_false] at hse
    rcases hse with rfl | rfl | rfl | rfl | rfl | rfl <;> exact id
  · -- the schedule
    intro pre s h now post hsplit _ j hj0 _ hj2
    exact (run_schedule hsplit s h now rfl).2 j hj0 hj2

-- the run has two begin-blockers that do run the reward block, at heights 15 and 20 …
example : rewardHeight (runState 12 runParams) 15 ∧ rewardHeight (runState 19 runParams') 20 := by
  constructor <;> (unfold rewardHeight; decide)
-- … at which the file is no longer young, so the prover *is* judged on its record
example : isYoung 15 10 4 = false ∧ isYoung 20 10 4 = false := by decide
-- a prover that skipped window [14,18) would be dropped at 20
example : provenLastBlock 20 10 4 12 = false := by decide

/-- what is known at the start about prover `c` and file key `k`: the `lastProven` of its record, if
it is listed there (its joining height for this run) -/
def initialHeights (c : String) (s0 : State) (k : FKey) : List Int :=
  match AMap.get s0.files k, AMap.get s0.proofs (c, k) with
  | some f, some p => if (c, k) ∈ f.proofs then [p.lastProven] else []
  | _, _ => []

/-- **C02 along whole executions, the burn counter.**

`s0` is any consistent state in which every file `c` is listed on has a proof record of `c`
(`hrec0`); `evs` any run that goes through, with non-decreasing heights (`hmono`) that are not below
the `lastProven` of `c`'s initial records (`hpast`).  *No* message is excluded: `c` may join further
files during the run (from then on it is judged on them too), files may be deleted, `c` may be
reported off a file (then it is no longer judged on it), parameters may change.

`hsched`, the schedule, for **every** file `c` is listed on when a begin-blocker runs the reward block
at height `h`: with `W` that file's own proof window (`≥ 1`) and `A` the heights of `c`'s accepted
proofs for it so far (the initial `lastProven` included), every complete window
`[start + j·W, start + (j+1)·W)`, `j ≥ 0`, that ends at or before `h` and begins at or after some
height of `A` (i.e. after `c` joined) contains a height of `A`.

Then
1. every begin-blocker of the run leaves `c`'s provider record — burn counter included — untouched;
2. if moreover `c` neither shuts down nor (re-)initialises its provider record during the run
   (`initProvider` starts a counter at 0), the burn counter at the end equals the one at the start. -/
theorem C02_honest_provider_never_burned_along_histories
    (c : String) (evs : List Event) (s0 s' : State)
    (hc : Consistent s0)
    (hrec0 : ∀ k f, AMap.get s0.files k = some f → (c, k) ∈ f.proofs →
      ∃ p, AMap.get s0.proofs (c, k) = some p)
    (hrun : evs.foldlM applyEvent s0 = some s')
    (hmono : (evs.filterMap Event.height).Pairwise (· ≤ ·))
    (hpast : ∀ k, ∀ x ∈ initialHeights c s0 k, ∀ h ∈ evs.filterMap Event.height, x ≤ h)
    (hsched : ∀ pre s h now post, runTrace s0 evs = pre ++ (s, Event.block h now) :: post →
      rewardHeight s h →
      ∀ k f, AMap.get s.files k = some f → (c, k) ∈ f.proofs →
        1 ≤ f.proofInterval ∧
        ∀ j : Int, 0 ≤ j →
          (∃ x ∈ initialHeights c s0 k ++ acceptedIn c k pre, x ≤ k.2.2 + j * f.proofInterval) →
          k.2.2 + (j + 1) * f.proofInterval ≤ h →
          ∃ x ∈ initialHeights c s0 k ++ acceptedIn c k pre,
            k.2.2 + j * f.proofInterval ≤ x ∧ x < k.2.2 + (j + 1) * f.proofInterval) :
    (∀ pre s h now post sa, runTrace s0 evs = pre ++ (s, Event.block h now) :: post →
      applyEvent s (.block h now) = some sa →
      AMap.get sa.providers c = AMap.get s.providers c) ∧
    ((∀ e ∈ evs, ¬ touchesProviderRecord c e) →
      (AMap.get s'.providers c).map (·.burned) = (AMap.get s0.providers c).map (·.burned)) := by
  have h0 : ∀ k, CondHeld c k s0 (initialHeights c s0 k) := by
    intro k f hf hl
    obtain ⟨p, hp⟩ := hrec0 k f hf hl
    have e : initialHeights c s0 k = [p.lastProven] := by
      simp only [initialHeights, hf, hp, hl, if_true]
    rw [e]
    exact ⟨by simp, p, hp, fun x hx => Int.le_of_eq (List.mem_singleton.mp hx)⟩
  have hwin : ∀ pre s h now post, runTrace s0 evs = pre ++ (s, Event.block h now) :: post →
      rewardHeight s h → Consistent s → ∀ k f, AMap.get s.files k = some f → (c, k) ∈ f.proofs →
        ∀ lp, initialHeights c s0 k ++ acceptedIn c k pre ≠ [] →
          (∀ x ∈ initialHeights c s0 k ++ acceptedIn c k pre, x ≤ lp) → WindowOK h f lp := by
    intro pre s h now post hsplit hrh hcs k f hf hl lp hne hlp
    obtain ⟨hW, hev⟩ := hsched pre s h now post hsplit hrh k f hf hl
    obtain ⟨x0, hx0⟩ := List.exists_mem_of_ne_nil _ hne
    exact windowOK_of_schedule hcs hf hW hx0 hlp (fun j hj hx hjw => hev j hj ⟨x0, hx0, hx⟩ hjw)
  obtain ⟨_, hall⟩ := condHeld_run c evs s0 s' (initialHeights c s0) hc h0 hrun hmono hpast hwin
  have part1 : ∀ pre s h now post sa, runTrace s0 evs = pre ++ (s, Event.block h now) :: post →
      applyEvent s (.block h now) = some sa →
      AMap.get sa.providers c = AMap.get s.providers c := by
    intro pre s h now post sa hsplit hs
    obtain ⟨hcs, hinv⟩ := hall pre s _ post hsplit
    apply block_keeps_provider hcs (applyEvent_block hs) c
    intro hrh
    exact honestProvider_of_condHeld hcs c h _ hinv
      (fun k f hf hl lp hne hlp => hwin pre s h now post hsplit hrh hcs k f hf hl lp hne hlp)
  refine ⟨part1, fun hprov => (trace_induct evs (fun s _ =>
    (AMap.get s.providers c).map (·.burned) = (AMap.get s0.providers c).map (·.burned))
    s0 s' hrun rfl ?_).1⟩
  intro pre s e post s1 hsplit hs hq
  rw [← hq]
  cases e with
  | msg h now op =>
    exact step_burned hs c (hprov _ (event_mem_of_split hrun hsplit))
  | block h now => rw [part1 pre s h now post s1 hsplit hs]
  | setParams q => cases hs; rfl

theorem run_files_get {lp : Int} {ps : Params} {k : FKey} {f : File}
    (h : AMap.get (runState lp ps).files k = some f) : k = schedKey ∧ f = runFile := by
  simp only [runState, AMap.get] at h
  split at h
  · rename_i e; cases h; exact ⟨e.symm, rfl⟩
  · cases h

theorem run_initialHeights (k : FKey) :
    initialHeights "bob" (runState 10 runParams) k = if k = schedKey then [10] else [] := by
  by_cases hk : k = schedKey
  · subst hk; rw [if_pos rfl]; decide +kernel
  · rw [if_neg hk]
    cases hg : AMap.get (runState 10 runParams).files k with
    | none => simp only [initialHeights, hg]
    | some f => exact absurd (run_files_get hg).1 hk

/-- all hypotheses of `C02_honest_provider_never_burned_along_histories` hold for the example run -/
theorem C02_honest_run_example_burn :
    (∀ pre s h now post sa,
      runTrace (runState 10 runParams) runEvents = pre ++ (s, Event.block h now) :: post →
      applyEvent s (.block h now) = some sa →
      AMap.get sa.providers "bob" = AMap.get s.providers "bob") ∧
    ((∀ e ∈ runEvents, ¬ touchesProviderRecord "bob" e) →
      (AMap.get (runState 19 runParams').providers "bob").map (·.burned) =
        (AMap.get (runState 10 runParams).providers "bob").map (·.burned)) := by
  apply C02_honest_provider_never_burned_along_histories "bob" runEvents
    (runState 10 runParams) (runState 19 runParams') runState_consistent
  · intro k f hf _
    obtain ⟨rfl, rfl⟩ := run_files_get hf
    exact ⟨_, rfl⟩
  · exact run_goes_through
  · show ([12, 15, 15, 19, 20] : List Int).Pairwise (· ≤ ·)
    decide
  · intro k x hx h hh
    rw [run_initialHeights] at hx
    split at hx
    · have hh' : h ∈ ([12, 15, 15, 19, 20] : List Int) := hh
      simp only [List.mem_cons, List.not_mem_nil, or_false] at hx hh'
      omega
    · cases hx
  · intro pre s h now post hsplit _ k f hf _
    obtain ⟨⟨lp, ps, rfl⟩, hsch⟩ := run_schedule hsplit s h now rfl
    obtain ⟨rfl, rfl⟩ := run_files_get hf
    rw [run_initialHeights, if_pos rfl]
    exact ⟨by decide, fun j hj0 _ hj2 => hsch j hj0 hj2⟩

-- no `initProvider` / `shutdownProvider` of bob in the run
example : ∀ e ∈ runEvents, ¬ touchesProviderRecord "bob" e := by
  intro e he
  simp only [runEvents, List.mem_cons, List.not_mem_nil, or_false] at he
  rcases he with rfl | rfl | rfl | rfl | rfl | rfl <;> simp [touchesProviderRecord, runProof]

end Canine.Storage
