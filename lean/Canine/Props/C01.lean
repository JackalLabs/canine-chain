/-
C01 — No storage reward or prover status without a valid proof of the challenged chunk: when
`postProof` accepts and what it then writes; that no other message and no reward block lists a prover
or moves a `lastProven`; that the block pays only the provers it credited; and the same along whole
executions (messages, begin-blockers, parameter changes) from a consistent state — the
"Consequently no account is ever paid … for a file it has never validly proven" clause.

The step and block theorems assume store-consistency facts (`Consistent` in
`Proofs/Consistency.lean`: no duplicate file keys, a file is stored under its own key, listed proof keys
belong to the file, a record names the prover of its key, a form is stored under the key it names).
The handlers write a file back under the key it carries and refresh the record a form names, so on a
state that violates them a message for one file can edit another; each theorem says at its
hypothesis what would go wrong.  The facts hold in the empty state and are preserved by every message
and by the begin-blocker (`consistent_step`, `consistent_beginBlock`, `consistent_run`); the
counterexamples after the demo states show that `hrec` and `hkey` cannot be dropped.
-/
import Canine.Proofs.Consistency
import Canine.Proofs.Merkle
namespace Canine.Storage
open Bank

theorem C01_postProof_rejected_changes_nothing (s : State) (h : Int) (c m o : String) (st tp : Int)
    (v : Bool) (nc : Int) :
    (postProof s h c m o st tp v nc).success = false → (postProof s h c m o st tp v nc).state = s := by
  intro hs
  rcases postProof_outcome s h c m o st tp v nc with e | ⟨_, _, -, -, -, -, -, e⟩ | ⟨_, -, -, -, -, -, e⟩
  · rw [e]
  · rw [e] at hs; cases hs
  · rw [e] at hs; cases hs

/-! ## Exactly when a proof is accepted -/

/-- Acceptance ⇔ the file exists, the sender is either a listed prover with a record whose stored
challenge is the claimed chunk, or a newcomer (claiming chunk 0, the initial challenge) for whom
there is room, and the chain's Merkle verification succeeded.
(`<` on the list length implies the `≠ maxProofs` test of the handler, so that conjunct is dropped.) -/
theorem C01_postProof_success_iff (s : State) (h : Int) (c m o : String) (st tp : Int)
    (v : Bool) (nc : Int) :
    (postProof s h c m o st tp v nc).success = true ↔
      ∃ f, AMap.get s.files (m, o, st) = some f ∧
        (((c, f.key) ∈ f.proofs ∧ ∃ p, AMap.get s.proofs (c, f.key) = some p ∧ tp = p.chunkToProve) ∨
         ((c, f.key) ∉ f.proofs ∧ (f.proofs.length : Int) < f.maxProofs ∧ tp = 0)) ∧
        v = true := by
  constructor
  · intro hs
    rcases postProof_outcome s h c m o st tp v nc with
      e | ⟨f, p, hf, hl, hp, ht, hv, -⟩ | ⟨f, hf, hl, hlt, ht, hv, -⟩
    · rw [e] at hs; cases hs
    · exact ⟨f, hf, Or.inl ⟨hl, p, hp, ht⟩, hv⟩
    · exact ⟨f, hf, Or.inr ⟨hl, hlt, ht⟩, hv⟩
  · rintro ⟨f, hf, hcase, hv⟩
    rw [postProof_eq_spec]; unfold postProofSpec
    rw [hf]; dsimp only
    rcases hcase with ⟨hl, p, hp, ht⟩ | ⟨hl, hlt, ht⟩
    · rw [if_pos hl, hp]; dsimp only; rw [if_pos ⟨ht, hv⟩]
    · rw [if_neg hl, if_pos ⟨hlt, ht, hv⟩]

theorem postProof_rejected_of {s : State} {h : Int} {c m o : String} {st tp : Int} {v : Bool} {nc : Int}
    (hn : ∀ f, AMap.get s.files (m, o, st) = some f →
      ¬ ((((c, f.key) ∈ f.proofs ∧ ∃ p, AMap.get s.proofs (c, f.key) = some p ∧ tp = p.chunkToProve) ∨
         ((c, f.key) ∉ f.proofs ∧ (f.proofs.length : Int) < f.maxProofs ∧ tp = 0)) ∧ v = true)) :
    (postProof s h c m o st tp v nc).success = false :=
  Bool.eq_false_iff.mpr (fun hs =>
    let ⟨f, hf, hacc⟩ := (C01_postProof_success_iff s h c m o st tp v nc).mp hs
    hn f hf hacc)

theorem C01_invalid_proof_rejected (s : State) (h : Int) (c m o : String) (st tp : Int) (nc : Int) :
    (postProof s h c m o st tp false nc).success = false :=
  postProof_rejected_of (fun _ _ hacc => nomatch hacc.2)

theorem C01_wrong_chunk_rejected (s : State) (h : Int) (c m o : String) (st tp : Int) (v : Bool)
    (nc : Int) (f : File) (p : Proof) (hf : AMap.get s.files (m, o, st) = some f)
    (hl : (c, f.key) ∈ f.proofs) (hp : AMap.get s.proofs (c, f.key) = some p)
    (hne : tp ≠ p.chunkToProve) :
    (postProof s h c m o st tp v nc).success = false := by
  refine postProof_rejected_of (fun f' hf' hacc => ?_)
  cases hf.symm.trans hf'
  rcases hacc.1 with ⟨_, p', hp', ht⟩ | ⟨hn, _⟩
  · cases hp.symm.trans hp'; exact hne ht
  · exact hn hl

/-- a newcomer must answer the initial challenge, chunk 0 -/
theorem C01_wrong_chunk_rejected_newcomer (s : State) (h : Int) (c m o : String) (st tp : Int)
    (v : Bool) (nc : Int) (f : File) (hf : AMap.get s.files (m, o, st) = some f)
    (hl : (c, f.key) ∉ f.proofs) (hne : tp ≠ 0) :
    (postProof s h c m o st tp v nc).success = false := by
  refine postProof_rejected_of (fun f' hf' hacc => ?_)
  cases hf.symm.trans hf'
  rcases hacc.1 with ⟨hl', _⟩ | ⟨_, _, ht⟩
  · exact hl hl'
  · exact hne ht

theorem C01_unknown_file_rejected (s : State) (h : Int) (c m o : String) (st tp : Int) (v : Bool)
    (nc : Int) (hf : AMap.get s.files (m, o, st) = none) :
    (postProof s h c m o st tp v nc).success = false :=
  postProof_rejected_of (fun _ hf' _ => nomatch hf.symm.trans hf')

theorem C01_full_file_rejects_newcomer (s : State) (h : Int) (c m o : String) (st tp : Int)
    (v : Bool) (nc : Int) (f : File) (hf : AMap.get s.files (m, o, st) = some f)
    (hl : (c, f.key) ∉ f.proofs) (hfull : f.maxProofs ≤ (f.proofs.length : Int)) :
    (postProof s h c m o st tp v nc).success = false := by
  refine postProof_rejected_of (fun f' hf' hacc => ?_)
  cases hf.symm.trans hf'
  rcases hacc.1 with ⟨hl', _⟩ | ⟨_, hlt, _⟩
  · exact hl hl'
  · omega

/-- a listed prover whose record is missing is rejected (`GetProver`'s "cannot find proof with
prover …", file_deal.go) -/
theorem C01_listed_without_record_rejected (s : State) (h : Int) (c m o : String) (st tp : Int)
    (v : Bool) (nc : Int) (f : File) (hf : AMap.get s.files (m, o, st) = some f)
    (hl : (c, f.key) ∈ f.proofs) (hp : AMap.get s.proofs (c, f.key) = none) :
    (postProof s h c m o st tp v nc).success = false := by
  refine postProof_rejected_of (fun f' hf' hacc => ?_)
  cases hf.symm.trans hf'
  rcases hacc.1 with ⟨_, p', hp', _⟩ | ⟨hn, _⟩
  · cases hp.symm.trans hp'
  · exact hn hl

/-! ## What an accepted proof writes -/

theorem C01_postProof_success_listed (s : State) (h : Int) (c m o : String) (st tp : Int)
    (v : Bool) (nc : Int) (f : File) (p : Proof) (hf : AMap.get s.files (m, o, st) = some f)
    (hl : (c, f.key) ∈ f.proofs) (hp : AMap.get s.proofs (c, f.key) = some p)
    (hs : (postProof s h c m o st tp v nc).success = true) :
    (postProof s h c m o st tp v nc).state =
      { s with proofs := (AMap.set s.proofs (c, f.key)
          { p with lastProven := h, chunkToProve := nextChunk f.fileSize s.params.chunkSize nc }) } := by
  rcases postProof_outcome s h c m o st tp v nc with e | ⟨f', p', hf', -, hp', -, -, e⟩ | ⟨f', hf', hl', -, -, -, e⟩
  · rw [e] at hs; cases hs
  · cases hf.symm.trans hf'; cases hp.symm.trans hp'; rw [e]; rfl
  · cases hf.symm.trans hf'; exact absurd hl hl'

theorem C01_postProof_success_newcomer (s : State) (h : Int) (c m o : String) (st tp : Int)
    (v : Bool) (nc : Int) (f : File) (hf : AMap.get s.files (m, o, st) = some f)
    (hl : (c, f.key) ∉ f.proofs)
    (hs : (postProof s h c m o st tp v nc).success = true) :
    (postProof s h c m o st tp v nc).state =
      { setFile s { f with proofs := f.proofs ++ [(c, f.key)] } with
        proofs := (AMap.set s.proofs (c, f.key)
          { prover := c, merkle := f.merkle, owner := f.owner, start := f.start, lastProven := h,
            chunkToProve := nextChunk f.fileSize s.params.chunkSize nc }) } := by
  rcases postProof_outcome s h c m o st tp v nc with e | ⟨f', p', hf', hl', -, -, -, e⟩ | ⟨f', hf', -, -, -, -, e⟩
  · rw [e] at hs; cases hs
  · cases hf.symm.trans hf'; exact absurd hl' hl
  · cases hf.symm.trans hf'; rw [e]; rfl

/-- The effect of an accepted proof, item by item.
* `hk` (`Consistent.key`): without it a newcomer is appended to a copy written under `f.key`, and
  the file stored at `(m, o, st)` is unchanged.
* `hrec` (`Consistent.record`): the handler keeps the stored `prover` field of an existing record,
  so without it `prover = c` fails for listed provers.
The unconditional equations are `C01_postProof_success_listed` / `_newcomer`. -/
theorem C01_postProof_success_effect (s : State) (h : Int) (c m o : String) (st tp : Int)
    (v : Bool) (nc : Int) (f : File) (hf : AMap.get s.files (m, o, st) = some f)
    (hk : f.key = (m, o, st))
    (hrec : ∀ p, AMap.get s.proofs (c, f.key) = some p → p.prover = c)
    (hs : (postProof s h c m o st tp v nc).success = true) :
    let s' := (postProof s h c m o st tp v nc).state
    let pk : PKey := (c, (m, o, st))
    (∃ f', AMap.get s'.files (m, o, st) = some f' ∧ pk ∈ f'.proofs ∧
        f' = { f with proofs := f'.proofs } ∧ (∀ x, x ∈ f'.proofs ↔ x ∈ f.proofs ∨ x = pk)) ∧
    (∃ p', AMap.get s'.proofs pk = some p' ∧ p'.lastProven = h ∧ p'.prover = c ∧
        p'.chunkToProve = nextChunk f.fileSize s.params.chunkSize nc) ∧
    (∀ k, k ≠ (m, o, st) → AMap.get s'.files k = AMap.get s.files k) ∧
    (∀ k, k ≠ (m, o, st) → AMap.get s'.files2 k = AMap.get s.files2 k) ∧
    (∀ k, k ≠ pk → AMap.get s'.proofs k = AMap.get s.proofs k) ∧
    s'.providers = s.providers ∧ s'.payinfo = s.payinfo ∧ s'.collateral = s.collateral ∧
    s'.gauges = s.gauges ∧ s'.attests = s.attests ∧ s'.reports = s.reports ∧ s'.bank = s.bank ∧
    s'.params = s.params ∧ s'.moduleAcc = s.moduleAcc ∧ s'.collateralAcc = s.collateralAcc ∧
    s'.polAcc = s.polAcc ∧ s'.feeAcc = s.feeAcc ∧ s'.blocked = s.blocked := by
  intro s' pk
  -- the key the message names is the file's own, so `(c, f.key)` is `pk`
  obtain ⟨rfl, rfl, rfl⟩ := File.key_eq hk
  rcases postProof_outcome s h c f.merkle f.owner f.start tp v nc with
    e | ⟨f', p, hf', hl, hp, -, -, e⟩ | ⟨f', hf', hl, -, -, -, e⟩
  · rw [e] at hs; cases hs
  · cases hf.symm.trans hf'
    have es : s' = _ := congrArg Reported.state e
    rw [es]
    exact ⟨⟨f, hf, hl, rfl, fun x => ⟨Or.inl, fun hx => hx.elim id (fun e => e ▸ hl)⟩⟩,
      ⟨_, AMap.get_set_self _ _ _, rfl, hrec p hp, rfl⟩, fun _ _ => rfl, fun _ _ => rfl,
      fun k hne => AMap.get_set_ne hne,
      rfl, rfl, rfl, rfl, rfl, rfl, rfl, rfl, rfl, rfl, rfl, rfl, rfl⟩
  · cases hf.symm.trans hf'
    have es : s' = _ := congrArg Reported.state e
    rw [es]
    exact ⟨⟨_, AMap.get_set_self _ _ _, List.mem_append_right _ (List.mem_singleton.mpr rfl), rfl,
        fun x => List.mem_append.trans (or_congr_right List.mem_singleton)⟩,
      ⟨_, AMap.get_set_self _ _ _, rfl, rfl, rfl⟩, fun k hne => AMap.get_set_ne hne,
      fun k hne => AMap.get_set_ne hne, fun k hne => AMap.get_set_ne hne,
      rfl, rfl, rfl, rfl, rfl, rfl, rfl, rfl, rfl, rfl, rfl, rfl, rfl⟩

/-! ## A prover is added to a file only by its own verified proof -/

/-- Any delivered message that makes `pk` a listed prover of an existing file is a `postProof` sent
by `pk.1` for that very file, claiming chunk 0 (the initial challenge), whose Merkle proof verified.

`hkey` (`Consistent.key`) is needed because `postProof` and `report` write the modified file back
under `f.key`, not under the key it was read from: without it a file stored under a foreign key
could be copied — provers included — over another one. -/
theorem C01_prover_added_only_by_verified_proof (s s' : State) (h now : Int) (op : Op)
    (hkey : ∀ k f, AMap.get s.files k = some f → f.key = k)
    (hstep : step s h now op = some s') (k : FKey) (f f' : File) (pk : PKey)
    (hf : AMap.get s.files k = some f) (hf' : AMap.get s'.files k = some f')
    (hin : pk ∈ f'.proofs) (hout : pk ∉ f.proofs) :
    pk.2 = k ∧ ∃ nc, op = .postProof pk.1 k.1 k.2.1 k.2.2 0 true nc := by
  rcases step_files_get hkey hstep k with e | e | ⟨nf, _, _, _, _, _, _, _, _, _, -, -, hnil, e⟩ |
      ⟨f0, c, nc, rfl, hf0, e⟩ | ⟨f0, pk0, hf0, e⟩
  · cases hf.symm.trans (e.symm.trans hf'); exact absurd hin hout
  · cases e.symm.trans hf'
  · cases e.symm.trans hf'; rw [hnil] at hin; cases hin
  · cases e.symm.trans hf'; cases hf.symm.trans hf0
    rcases List.mem_append.mp hin with hin | hin
    · exact absurd hin hout
    · cases List.mem_singleton.mp hin; exact ⟨rfl, nc, rfl⟩
  · cases e.symm.trans hf'; cases hf.symm.trans hf0
    exact absurd (List.mem_filter.mp hin).1 hout

/-- `hkey` for the same reason as in `C01_prover_added_only_by_verified_proof`. -/
theorem C01_new_file_has_no_provers (s s' : State) (h now : Int) (op : Op)
    (hkey : ∀ k f, AMap.get s.files k = some f → f.key = k)
    (hstep : step s h now op = some s') (k : FKey) (f' : File)
    (hf : AMap.get s.files k = none) (hf' : AMap.get s'.files k = some f') :
    f'.proofs = [] ∧ k.2.2 = h ∧
      ∃ fs mp ex pt note nv jp gid gacc, op = .postFile k.2.1 k.1 fs mp ex pt note nv jp gid gacc := by
  rcases step_files_get hkey hstep k with e | e | ⟨nf, fs, mp, ex, pt, note, nv, jp, gid, gacc, hop, hh, hnil, e⟩ |
      ⟨f0, _, _, -, hf0, -⟩ | ⟨f0, _, hf0, -⟩
  · cases (hf.symm.trans e.symm).trans hf'
  · cases e.symm.trans hf'
  · cases e.symm.trans hf'; exact ⟨hnil, hh, fs, mp, ex, pt, note, nv, jp, gid, gacc, hop⟩
  · cases hf.symm.trans hf0
  · cases hf.symm.trans hf0

/-! ## The reward block never adds a prover (and never creates or edits a proof record) -/

theorem shrinks_spelled {s s' : State}
    (hsh : ∀ k f', AMap.get s'.files k = some f' → ∃ f, AMap.get s.files k = some f ∧ File.ShrinkOf f' f) :
    ∀ k f', AMap.get s'.files k = some f' →
      ∃ f, AMap.get s.files k = some f ∧ f' = { f with proofs := f'.proofs } ∧
        f'.proofs.Sublist f.proofs ∧ ∀ pk ∈ f'.proofs, pk ∈ f.proofs := fun k f' hf' =>
  let ⟨f, hf, e, hsub⟩ := hsh k f' hf'
  ⟨f, hf, e, hsub, fun _ hpk => hsub.subset hpk⟩

/-- `hget` says that the `file` handed to `manageFile` is the one stored under its key (which is how
`manageRewards` calls it on a consistent state).  `manageFile` writes the shrunk copy of its
*argument* back under `file.key`, so for an arbitrary argument it would overwrite the stored file. -/
theorem C01_manageFile_never_adds_provers (s : State) (h : Int) (t : Tracker) (file : File)
    (hget : AMap.get s.files file.key = some file) :
    ∀ k f', AMap.get (manageFile s h t file).1.files k = some f' →
      ∃ f, AMap.get s.files k = some f ∧ f' = { f with proofs := f'.proofs } ∧
        f'.proofs.Sublist f.proofs ∧ ∀ pk ∈ f'.proofs, pk ∈ f.proofs := by
  have out := manageFile_out s h t file hget
  refine shrinks_spelled (fun k f' hf' => ?_)
  by_cases hk : k = file.key
  · subst hk; exact ⟨file, hget, out.atKey f' hf'⟩
  · exact ⟨f', manageFile_files_other s h t file hk ▸ hf', File.ShrinkOf.refl _⟩

theorem C01_manageFile_never_writes_records (s : State) (h : Int) (t : Tracker) (file : File)
    (hget : AMap.get s.files file.key = some file) :
    ∀ pk p, AMap.get (manageFile s h t file).1.proofs pk = some p → AMap.get s.proofs pk = some p :=
  (manageFile_out s h t file hget).proofs

/-- The file loop of `manageRewards`.  `Consistent` is needed because the loop hands `manageFile` the
files as they were read at the start (`hget` in `C01_manageFile_never_adds_provers`): with duplicate
keys or a file stored under a foreign key the loop could resurrect provers. -/
theorem C01_files_loop_never_adds_provers (s : State) (h : Int) (hc : Consistent s) :
    ∀ k f', AMap.get (s.files.foldl (fun (acc : State × Tracker) kv =>
        manageFile acc.1 h acc.2 kv.2) (s, [])).1.files k = some f' →
      ∃ f, AMap.get s.files k = some f ∧ f' = { f with proofs := f'.proofs } ∧
        f'.proofs.Sublist f.proofs ∧ ∀ pk ∈ f'.proofs, pk ∈ f.proofs :=
  shrinks_spelled (filePass_blockInv s h hc).shrinks

theorem C01_pullGauges_frame (s s' : State) (now : Int) (coins : Coins)
    (h : pullGauges s now = .ok (s', coins)) :
    s'.files = s.files ∧ s'.files2 = s.files2 ∧ s'.proofs = s.proofs ∧ s'.providers = s.providers := by
  obtain ⟨_, _, rfl, -⟩ := pullGauges_spec h
  exact ⟨rfl, rfl, rfl, rfl⟩

theorem C01_payProver_frame (s s' : State) (total : Int) (coins : Coins) (prover : String)
    (worth : Int) (h : payProver s total coins prover worth = .ok s') :
    s'.files = s.files ∧ s'.files2 = s.files2 ∧ s'.proofs = s.proofs ∧ s'.providers = s.providers := by
  obtain ⟨_, -, rfl⟩ := payProver_spec h
  exact ⟨rfl, rfl, rfl, rfl⟩

/-- The whole reward block (`manageRewards`) adds no prover to any file; by the second conjunct it
never moves a `lastProven` either. -/
theorem C01_block_never_adds_provers (s s' : State) (h now : Int) (hc : Consistent s)
    (hs : manageRewards s h now = .ok s') :
    (∀ k f', AMap.get s'.files k = some f' →
      ∃ f, AMap.get s.files k = some f ∧ f' = { f with proofs := f'.proofs } ∧
        f'.proofs.Sublist f.proofs ∧ ∀ pk ∈ f'.proofs, pk ∈ f.proofs) ∧
    (∀ pk p, AMap.get s'.proofs pk = some p → AMap.get s.proofs pk = some p) := by
  obtain ⟨inv, rel, _⟩ := manageRewards_out hc hs
  exact ⟨shrinks_spelled (manageRewards_shrinks hc hs), rel.proofs ▸ inv.proofs⟩

theorem C01_beginBlock_never_adds_provers (s s' : State) (h now : Int) (hc : Consistent s)
    (hs : beginBlock s h now = .ok s') :
    (∀ k f', AMap.get s'.files k = some f' →
      ∃ f, AMap.get s.files k = some f ∧ f' = { f with proofs := f'.proofs } ∧
        f'.proofs.Sublist f.proofs ∧ ∀ pk ∈ f'.proofs, pk ∈ f.proofs) ∧
    (∀ pk p, AMap.get s'.proofs pk = some p → AMap.get s.proofs pk = some p) := by
  obtain ⟨-, ⟨-, rfl⟩ | ⟨-, hm⟩⟩ := beginBlock_spec hs
  · exact ⟨shrinks_spelled (fun k f' hf' => ⟨f', hf', File.ShrinkOf.refl _⟩), fun _ _ h => h⟩
  · exact C01_block_never_adds_provers s s' h now hc hm

/-! ## `lastProven` moves only by a verified proof or an attestation quorum -/

/-- If a delivered message changes the `lastProven` of an existing proof record, the message is a
`postProof` of that prover for that file whose Merkle proof verified, or an `attest` on the
attestation form of exactly that proof key; in both cases the new value is the current height.

`hkey` (`Consistent.key`) and `hform` (`Consistent.form`): `attest` updates the record named by the
*contents* of the form and of the file it points to, so without them the form stored under `pk`
could refresh some other record. -/
theorem C01_lastProven_moves_only_by_valid_proof_or_quorum (s s' : State) (h now : Int) (op : Op)
    (hkey : ∀ k f, AMap.get s.files k = some f → f.key = k)
    (hform : ∀ pk fm, AMap.get s.attests pk = some fm →
      (fm.prover, fm.merkle, fm.owner, fm.start) = pk)
    (hstep : step s h now op = some s') (pk : PKey) (p p' : Proof)
    (hp : AMap.get s.proofs pk = some p) (hp' : AMap.get s'.proofs pk = some p')
    (hne : p.lastProven ≠ p'.lastProven) :
    p'.lastProven = h ∧
    ((∃ tp nc, op = .postProof pk.1 pk.2.1 pk.2.2.1 pk.2.2.2 tp true nc ∧
        (postProof s h pk.1 pk.2.1 pk.2.2.1 pk.2.2.2 tp true nc).success = true) ∨
     (∃ c, op = .attest c pk.1 pk.2.1 pk.2.2.1 pk.2.2.2)) := by
  -- a record that is kept, or only removed, does not move
  have kept : AMap.get s.proofs pk = some p' → False := fun e => by
    cases hp.symm.trans e; exact hne rfl
  -- a record written under `pk0`: either it is `pk`, or `pk` is kept
  have written : ∀ {pk0 : PKey} {r : Proof}, s'.proofs = AMap.set s.proofs pk0 r →
      pk0 = pk ∧ r = p' := fun {pk0 r} e => by
    rw [e, AMap.get_set] at hp'
    split at hp'
    · rename_i e; exact ⟨e, Option.some.inj hp'⟩
    · exact (kept hp').elim
  cases step_storeStep hkey hstep with
  | same _ e3 => exact (kept (e3 ▸ hp')).elim
  | deleted c m st => exact (kept (proofs_get_of_removeFile _ _ _ _ hp')).elim
  | posted c m fs mp ex pt note nv jp gid gacc nf _ _ e3 =>
    exact (kept (proofs_get_of_removeFile _ _ _ _ (e3 ▸ hp'))).elim
  | proved c m o st tp nc f p0 r _ _ _ hsucc _ hlp _ e3 =>
    obtain ⟨rfl, rfl⟩ := written e3
    exact ⟨hlp, Or.inl ⟨tp, nc, rfl, hsucc⟩⟩
  | joined c m o st nc f r _ _ hsucc _ hlp _ e3 =>
    obtain ⟨rfl, rfl⟩ := written e3
    exact ⟨hlp, Or.inl ⟨0, nc, rfl, hsucc⟩⟩
  | attested c pr m o st fm p0 hg _ _ e3 =>
    obtain ⟨e, rfl⟩ := written e3
    cases (hform _ _ hg).symm.trans e
    exact ⟨rfl, Or.inr ⟨c, rfl⟩⟩
  | reported c pr m o st fm f _ _ _ _ _ e3 =>
    rw [e3, AMap.get_erase] at hp'
    split at hp'
    · cases hp'
    · exact (kept hp').elim

/-! ## Only credited provers are paid -/

theorem C01_only_credited_provers_are_paid (s s' : State) (total : Int) (coins : Coins)
    (prover : String) (worth : Int) (h : payProver s total coins prover worth = .ok s') :
    ∀ a d, a ≠ prover → bal s'.bank a d ≤ bal s.bank a d := by
  obtain ⟨b, hb, rfl⟩ := payProver_spec h
  exact fun a d ha => hb.bal_le_of_not_recipient (fun hq => ha hq.1) d

/-- `manageFile` credits only the `prover` named by an existing record of a listed proof key (or
the empty name, for a young file's listed key without record — and `payProver` skips that one) -/
theorem C01_only_listed_records_are_credited (s : State) (h : Int) (t : Tracker) (file : File)
    (hget : AMap.get s.files file.key = some file) :
    ∀ x ∈ AMap.keys (manageFile s h t file).2, x ∈ AMap.keys t ∨ x = "" ∨
      ∃ pk ∈ file.proofs, ∃ p, AMap.get s.proofs pk = some p ∧ p.prover = x :=
  (manageFile_out s h t file hget).tracker

theorem C01_manageProof_credits_record_prover (s : State) (h : Int) (t : Tracker) (file : File)
    (pk : PKey) :
    ∀ x ∈ AMap.keys (manageProof s h t file pk).2.1, x ∈ AMap.keys t ∨ x = "" ∨
      ∃ p, AMap.get s.proofs pk = some p ∧ p.prover = x := by
  intro x hx
  cases hp : passes s h file pk with
  | true =>
    rw [manageProof_pass s h t file pk hp] at hx
    rcases (credit_keys _ _ _ _).mp hx with hx | rfl
    · exact Or.inl hx
    · exact Or.inr (creditName_cases s pk)
  | false =>
    rw [manageProof_fail s h t file pk hp] at hx
    exact Or.inl hx

/-- The whole reward block: an account whose balance of any denomination grew is the module
account (which receives the gauge releases) or the prover named by the record of a proof key listed
in a stored file. -/
theorem C01_block_pays_only_listed_provers (s s' : State) (h now : Int) (hc : Consistent s)
    (hs : manageRewards s h now = .ok s') (a d : String)
    (hgain : bal s.bank a d < bal s'.bank a d) :
    a = s.moduleAcc ∨
    ∃ kv ∈ s.files, ∃ pk ∈ kv.2.proofs, ∃ p, AMap.get s.proofs pk = some p ∧ p.prover = a := by
  obtain ⟨_, _, hb⟩ := manageRewards_out hc hs
  by_cases ha : a = s.moduleAcc
  · exact Or.inl ha
  · by_cases hq : CreditedProver s a
    · exact Or.inr hq
    · have := hb a d ha hq
      omega

/-! ## The Merkle side: what the `verified` flag of an accepted `postProof` stands for -/

/-- an accepted proof is a proof of the challenged chunk, or exhibits a hash collision / a
pre-image of the zero node.  (`hc : c < chunks.length` is necessary, see
`Merkle.verifyProof_needs_challenge_bound`; `C02_challenge_designates_chunk` provides it.) -/
theorem C01_accepted_proof_is_for_challenged_chunk (H S : Merkle.Bytes → Merkle.Bytes)
    (hashLen sLen : Nat) (hlen : ∀ x, (H x).length = hashLen) (hslen : ∀ x, (S x).length = sLen)
    (hlt : sLen < hashLen) (chunks : List Merkle.Bytes) (c : Nat) (hc : c < chunks.length)
    (item : Merkle.Bytes) (idx : Nat) (hs : List Merkle.Bytes)
    (hv : Merkle.verifyProof H S (Merkle.fileRoot H S hashLen chunks) c item idx hs = true) :
    (c < chunks.length ∧ item = chunks.getD c [])
    ∨ (∃ x y, x ≠ y ∧ H x = H y) ∨ (∃ x y, x ≠ y ∧ S x = S y)
    ∨ (∃ x, H x = Merkle.zeroNode hashLen) :=
  Merkle.accepted_proof_is_for_challenged_chunk H S hashLen sLen hlen hslen hlt chunks c hc item idx hs hv

/-- regression witness: `verifyProofUnfixed`, which does not compare the proof's index with the
challenge, accepts for the challenge 1 an item and path belonging to leaf 123 -/
theorem C01_unfixed_verifier_accepts_other_chunk (H S : Merkle.Bytes → Merkle.Bytes) (hashLen : Nat)
    (chunks : List Merkle.Bytes) (h : 123 < chunks.length) :
    Merkle.verifyProofUnfixed H S (Merkle.fileRoot H S hashLen chunks) 1
      (0x23 :: chunks.getD 123 []) 123
      (Merkle.genProof H hashLen (chunks.mapIdx (fun j c => Merkle.leafData S j c)) 123) = true :=
  Merkle.verifyProofUnfixed_accepts_wrong_chunk H S hashLen chunks h

theorem C01_verifier_rejects_wrong_index (H S : Merkle.Bytes → Merkle.Bytes)
    (merkle item : Merkle.Bytes) (c idx : Nat) (hs : List Merkle.Bytes) (hne : idx ≠ c) :
    Merkle.verifyProof H S merkle c item idx hs = false :=
  Merkle.verifyProof_rejects_wrong_index H S merkle item c idx hs hne

/-! ## Non-vacuity: a concrete file, an honest prover, a cheating one -/

def demoParams : Params :=
  { proofWindow := 50, checkWindow := 11, chunkSize := 1024, pricePerTbPerMonth := 8,
    collateralPrice := 1000, attestFormSize := 5, attestMinToPass := 3, referralCommission := 25,
    polRatio := 40 }

def demoFile : File :=
  { merkle := "aa", owner := "alice", start := 10, expires := 0, fileSize := 2500,
    proofInterval := 50, proofType := 0, proofs := [], maxProofs := 3, note := "{}" }

def demoState : State :=
  { files := [(("aa", "alice", 10), demoFile)], files2 := [(("aa", "alice", 10), demoFile)],
    proofs := [], providers := [], payinfo := [], collateral := [], gauges := [], attests := [],
    reports := [], bank := [], params := demoParams, moduleAcc := "storage",
    collateralAcc := "collateral", polAcc := "pol", feeAcc := "fee", blocked := [] }

def demoState1 : State := (postProof demoState 20 "bob" "aa" "alice" 10 0 true 1).state

example : chunkCount 2500 1024 = 3 := by decide +kernel
-- a newcomer's verified proof of chunk 0 is accepted; bob is listed, challenged with chunk 1
example : (postProof demoState 20 "bob" "aa" "alice" 10 0 true 1).success = true := by decide +kernel
example : AMap.get demoState1.files ("aa", "alice", 10)
    = some { demoFile with proofs := [("bob", "aa", "alice", 10)] } := by decide +kernel
example : AMap.get demoState1.proofs ("bob", "aa", "alice", 10)
    = some { prover := "bob", merkle := "aa", owner := "alice", start := 10, lastProven := 20,
             chunkToProve := 1 } := by decide +kernel
-- the same message with a Merkle proof that does not verify: rejected, nothing written
example : (postProof demoState 20 "bob" "aa" "alice" 10 0 false 1).success = false := by decide +kernel
example : (postProof demoState 20 "bob" "aa" "alice" 10 0 false 1).state = demoState := by decide +kernel
-- bob's next honest proof (of the stored challenge, chunk 1) is accepted and moves `lastProven`
example : (postProof demoState1 60 "bob" "aa" "alice" 10 1 true 0).success = true := by decide +kernel
example : ((AMap.get (postProof demoState1 60 "bob" "aa" "alice" 10 1 true 0).state.proofs
    ("bob", "aa", "alice", 10)).map (·.lastProven)) = some 60 := by decide +kernel
-- a verified proof of another chunk, an unverified one, a proof for an unknown file: all rejected
example : (postProof demoState1 60 "bob" "aa" "alice" 10 2 true 0).success = false := by decide +kernel
example : (postProof demoState1 60 "bob" "aa" "alice" 10 1 false 0).success = false := by decide +kernel
example : (postProof demoState1 60 "bob" "aa" "alice" 11 1 true 0).success = false := by decide +kernel
example : (postProof demoState1 60 "bob" "aa" "alice" 10 1 false 0).state = demoState1 := by decide +kernel

theorem demoState_consistent : Consistent demoState :=
  .of_forall _ (by decide +kernel) (by decide +kernel) (by decide +kernel) (by decide +kernel)

theorem demoState1_consistent : Consistent demoState1 :=
  consistent_step (s := demoState) (h := 20) (now := 0)
    (op := .postProof "bob" "aa" "alice" 10 0 true 1) demoState_consistent rfl

-- the hypotheses of `C01_prover_added_only_by_verified_proof` are satisfiable: this step adds bob
example : step demoState 20 0 (.postProof "bob" "aa" "alice" 10 0 true 1) = some demoState1 ∧
    AMap.get demoState.files ("aa", "alice", 10) = some demoFile ∧
    (∃ f', AMap.get demoState1.files ("aa", "alice", 10) = some f' ∧
      ("bob", "aa", "alice", 10) ∈ f'.proofs) ∧
    ("bob", "aa", "alice", 10) ∉ demoFile.proofs :=
  ⟨rfl, by decide +kernel, ⟨{ demoFile with proofs := [("bob", "aa", "alice", 10)] }, by decide +kernel, by decide +kernel⟩,
    by decide +kernel⟩

-- the hypotheses of `C01_lastProven_moves_only_by_valid_proof_or_quorum` are satisfiable
example : ∃ s', step demoState1 60 0 (.postProof "bob" "aa" "alice" 10 1 true 0) = some s' ∧
    ∃ p p', AMap.get demoState1.proofs ("bob", "aa", "alice", 10) = some p ∧
      AMap.get s'.proofs ("bob", "aa", "alice", 10) = some p' ∧ p.lastProven ≠ p'.lastProven :=
  ⟨_, rfl,
    { prover := "bob", merkle := "aa", owner := "alice", start := 10, lastProven := 20, chunkToProve := 1 },
    { prover := "bob", merkle := "aa", owner := "alice", start := 10, lastProven := 60, chunkToProve := 0 },
    by decide +kernel, by decide +kernel, by decide +kernel⟩

/-- Why `hrec` is needed in `C01_postProof_success_effect`: a record stored under bob's key but
naming "zed" keeps naming "zed" after bob's accepted proof (the handler only updates `lastProven`
and the challenge). -/
example :
    let s : State := { demoState1 with proofs := [(("bob", "aa", "alice", 10),
      { prover := "zed", merkle := "aa", owner := "alice", start := 10, lastProven := 20, chunkToProve := 1 })] }
    (postProof s 60 "bob" "aa" "alice" 10 1 true 0).success = true ∧
    (AMap.get (postProof s 60 "bob" "aa" "alice" 10 1 true 0).state.proofs
      ("bob", "aa", "alice", 10)).map (·.prover) = some "zed" := by
  decide +kernel

/-- a file stored under eve's key that carries the key of alice's file -/
def evilFile : File := { demoFile with maxProofs := 5 }
def evilState : State :=
  { demoState with files := [(("aa", "alice", 10), demoFile), (("bb", "eve", 10), evilFile)] }

/-- Why `hkey` is needed in `C01_prover_added_only_by_verified_proof`: if the file stored under
`("bb", "eve", 10)` carries the key of alice's file, a `postProof` *for eve's file* makes mallory a
prover of alice's file (the modified copy is written back under the key the file carries). -/
example :
    ∃ s' f', step evilState 20 0 (.postProof "mallory" "bb" "eve" 10 0 true 0) = some s' ∧
      AMap.get evilState.files ("aa", "alice", 10) = some demoFile ∧
      AMap.get s'.files ("aa", "alice", 10) = some f' ∧
      ("mallory", "aa", "alice", 10) ∈ f'.proofs ∧ ("mallory", "aa", "alice", 10) ∉ demoFile.proofs ∧
      ¬ ∃ nc, Op.postProof "mallory" "bb" "eve" 10 0 true 0
          = .postProof "mallory" "aa" "alice" 10 0 true nc := by
  refine ⟨_, { evilFile with proofs := [("mallory", "aa", "alice", 10)] }, rfl, by decide +kernel, by decide +kernel,
    by decide +kernel, by decide +kernel, ?_⟩
  rintro ⟨nc, h⟩
  simp at h


/-! ## Along whole executions: prover status and payment presuppose an accepted proof -/

/-- the execution contains the joining message: a `postProof` by `pk.1` for the file `pk.2` that
claims chunk 0 (a newcomer's initial challenge) and whose Merkle proof verified -/
def ProvedIn (evs : List Event) (pk : PKey) : Prop :=
  ∃ h now nc, Event.msg h now (.postProof pk.1 pk.2.1 pk.2.2.1 pk.2.2.2 0 true nc) ∈ evs

theorem ProvedIn.mono {evs evs' : List Event} {pk : PKey} (hsub : ∀ e ∈ evs, e ∈ evs')
    (h : ProvedIn evs pk) : ProvedIn evs' pk :=
  let ⟨h1, now, nc, hm⟩ := h
  ⟨h1, now, nc, hsub _ hm⟩

theorem listed_after_event (s s' : State) (e : Event) (hc : Consistent s)
    (hs : applyEvent s e = some s') (k : FKey) (f' : File) (pk : PKey)
    (hf' : AMap.get s'.files k = some f') (hin : pk ∈ f'.proofs) :
    (∃ f, AMap.get s.files k = some f ∧ pk ∈ f.proofs) ∨ ProvedIn [e] pk := by
  cases e with
  | msg h now op =>
    cases hf : AMap.get s.files k with
    | none =>
      rw [(C01_new_file_has_no_provers s s' h now op hc.key hs k f' hf hf').1] at hin
      cases hin
    | some f =>
      by_cases hl : pk ∈ f.proofs
      · exact Or.inl ⟨f, rfl, hl⟩
      · obtain ⟨rfl, nc, rfl⟩ :=
          C01_prover_added_only_by_verified_proof s s' h now op hc.key hs k f f' pk hf hf' hin hl
        exact Or.inr ⟨h, now, nc, List.mem_singleton.mpr rfl⟩
  | block h now =>
    obtain ⟨f, hf, -, -, hsub⟩ :=
      (C01_beginBlock_never_adds_provers s s' h now hc (applyEvent_block hs)).1 k f' hf'
    exact Or.inl ⟨f, hf, hsub pk hin⟩
  | setParams p =>
    cases hs
    exact Or.inl ⟨f', hf', hin⟩

/-- **Prover status presupposes an accepted proof, along every execution.**  Start from any
consistent state (the empty genesis state is one) and run any sequence of delivered messages,
begin-blockers and parameter changes.  Every account listed afterwards as a prover of a stored
file was already listed for that file at the start, or the execution contains a `postProof` by that
very account for that very file whose Merkle proof verified for the challenged chunk. -/
theorem C01_listed_provers_have_proven_along_histories (evs : List Event) :
    ∀ (s s' : State), Consistent s → evs.foldlM applyEvent s = some s' →
      ∀ k f' pk, AMap.get s'.files k = some f' → pk ∈ f'.proofs →
        (∃ f, AMap.get s.files k = some f ∧ pk ∈ f.proofs) ∨ ProvedIn evs pk := by
  induction evs with
  | nil =>
    intro s s' _ h k f' pk hf' hin
    cases h
    exact Or.inl ⟨f', hf', hin⟩
  | cons e evs ih =>
    intro s s' hc h k f' pk hf' hin
    obtain ⟨s1, h1, h2⟩ := run_cons.mp h
    rcases ih s1 s' (consistent_event hc h1) h2 k f' pk hf' hin with ⟨f1, hf1, hin1⟩ | hp
    · exact (listed_after_event s s1 e hc h1 k f1 pk hf1 hin1).imp_right
        (ProvedIn.mono fun x hx => List.mem_singleton.mp hx ▸ List.mem_cons_self)
    · exact Or.inr (hp.mono fun x hx => List.mem_cons_of_mem _ hx)

theorem C01_from_genesis_listed_provers_have_proven (evs : List Event) (s0 s' : State)
    (hc : Consistent s0) (hempty : s0.files = []) (hrun : evs.foldlM applyEvent s0 = some s')
    (k : FKey) (f' : File) (pk : PKey) (hf' : AMap.get s'.files k = some f') (hin : pk ∈ f'.proofs) :
    ProvedIn evs pk := by
  rcases C01_listed_provers_have_proven_along_histories evs s0 s' hc hrun k f' pk hf' hin with
    ⟨f, hf, -⟩ | hp
  · rw [hempty] at hf; cases hf
  · exact hp

/-- **No reward without a valid proof, along every execution.**  After any execution from genesis,
an account (other than the module account, which collects the gauge releases) whose balance grows
in a reward block has, somewhere in that execution, submitted a verifying proof of the challenged
chunk for a file it is listed on. -/
theorem C01_paid_only_after_valid_proof (evs : List Event) (s0 s s' : State) (h now : Int)
    (hc : Consistent s0) (hempty : s0.files = []) (hrun : evs.foldlM applyEvent s0 = some s)
    (hblock : manageRewards s h now = .ok s') (a d : String) (ha : a ≠ s.moduleAcc)
    (hgain : bal s.bank a d < bal s'.bank a d) :
    ∃ pk, pk.1 = a ∧ ProvedIn evs pk := by
  have hcs : Consistent s := consistent_run evs s0 s hc hrun
  rcases C01_block_pays_only_listed_provers s s' h now hcs hblock a d hgain with hm | ⟨kv, hkv, pk, hpk, p, hp, hpa⟩
  · exact absurd hm ha
  · have hget : AMap.get s.files kv.1 = some kv.2 :=
      (AMap.mem_iff_get_of_wf hcs.wf kv.1 kv.2).mp hkv
    refine ⟨pk, ?_, C01_from_genesis_listed_provers_have_proven evs s0 s hc hempty hrun kv.1 kv.2 pk hget hpk⟩
    rw [← hcs.record pk p hp]; exact hpa

/-- `demoState` without its file: an empty, consistent state as in the hypotheses of
`C01_from_genesis_listed_provers_have_proven` and `C01_paid_only_after_valid_proof`.  The run below
does not start from it but from `demoState`, where alice's file is already stored. -/
def genesisState : State := { demoState with files := [], files2 := [], proofs := [] }

theorem genesisState_consistent : Consistent genesisState := consistent_of_empty _ rfl rfl rfl

def demoRun : List Event := [.setParams demoParams, .msg 20 0 (.postProof "bob" "aa" "alice" 10 0 true 1)]

/-- non-vacuity of `C01_listed_provers_have_proven_along_histories`: `demoRun` runs from `demoState`,
bob ends up listed on alice's file, he was not listed before, and the theorem's conclusion is
witnessed by his proof event -/
example : demoRun.foldlM applyEvent demoState = some demoState1 := rfl
example : ("bob", "aa", "alice", 10) ∈ demoFile.proofs → False := by decide +kernel
example : ProvedIn demoRun ("bob", "aa", "alice", 10) := by
  rcases C01_listed_provers_have_proven_along_histories demoRun demoState demoState1 demoState_consistent rfl
    ("aa", "alice", 10) { demoFile with proofs := [("bob", "aa", "alice", 10)] } ("bob", "aa", "alice", 10)
    (by decide +kernel) (by decide +kernel) with ⟨f, hf, hin⟩ | hp
  · have : f = demoFile := by
      have h2 : AMap.get demoState.files ("aa", "alice", 10) = some demoFile := by decide +kernel
      rw [h2] at hf; cases hf; rfl
    subst this
    exact absurd hin (by decide +kernel)
  · exact hp

end Canine.Storage
