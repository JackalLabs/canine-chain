/-
C09 — Bid escrow is conserved: the name-service module account always holds exactly the sum of
all open bids; cancelling refunds exactly what was escrowed, accepting pays the owner exactly that
amount and removes the bid; registrations and purchases leave no residue.
-/
import Canine.Proofs.Rns
import Canine.Proofs.QueryStorage
import Canine.Query.Rns
import Canine.Generated.KeyFacts
namespace Canine.Rns
open Bank

/-- The invariant of C09 (with the configuration facts it rests on: the module account is a
blocked recipient — `app.ModuleAccountAddrs()`, handed to the bank keeper as blocked addresses
(app.go) — and is not the protocol-liquidity account). -/
structure EscrowInv (s : State) : Prop where
  wf : AMap.WF s.bids
  modBlocked : s.moduleAcc ∈ s.blocked
  polNe : s.polAcc ≠ s.moduleAcc
  escrow : ∀ d, bal s.bank s.moduleAcc d = escrowed d s

/-- paying a stored bid out of the module account and erasing it keeps the module balance equal
to the sum of the open bids (`CancelBid`, `AcceptBid`) -/
theorem escrow_payout {s : State} (hinv : EscrowInv s) {k dst : String} {b : BidRec} {coins : Coins} {b1 : Bank}
    (hb : AMap.get s.bids k = some b) (hcoins : b.price = some coins)
    (hb1 : sendFromModule s dst coins = some b1) (d : String) :
    bal b1 s.moduleAcc d = AMap.sumBy (bidAmt d) (AMap.erase s.bids k) := by
  rw [AMap.sumBy_erase _ _ hinv.wf, (sendFromModule_pays hb1 hinv.modBlocked d).2, hinv.escrow d, hb]
  simp [bidAmt_of_price hcoins, escrowed]

/-- One step: every message of the module (signed by anyone but the module account itself, which
has no key) preserves "module balance = Σ open bids", for every denomination. -/
theorem C09_step_preserves_escrow (s s' : State) (h : Int) (op : Op)
    (hinv : EscrowInv s) (hc : acct s op.creator ≠ some s.moduleAcc) (hstep : step s h op = some s') :
    EscrowInv s' := by
  have ⟨wf, mb, pn, esc⟩ := hinv
  obtain ⟨cc, hcc, hd⟩ := step_delivered hstep
  have hcm : cc ≠ s.moduleAcc := fun e => hc (e ▸ hcc)
  cases hd with
  | register _ _ _ _ hb1 hb2 | buy _ _ _ _ _ _ _ _ _ hb1 hb2 =>
    -- what came into the module account went out again, to a recipient that is not the module account
    refine ⟨wf, mb, pn, fun d => ?_⟩
    show bal _ s.moduleAcc d = escrowed d s
    rw [passThrough_bal hb1 hb2, if_neg (sendFromModule_ne hb2 mb), if_neg hcm, esc d]; omega
  | bid hp hb0 hb1 =>
    refine ⟨AMap.wf_set _ _ wf, mb, pn, fun d => ?_⟩
    show bal _ s.moduleAcc d = AMap.sumBy (bidAmt d) (AMap.set s.bids _ _)
    rw [AMap.sumBy_set _ _ _ wf, bal_send hb1, if_pos rfl, if_neg hcm]
    -- the escrow of the bid this one replaces has just been paid back
    rcases refundOld_spec hb0 with ⟨hg, rfl⟩ | ⟨old, ob, oc, hg, -, hoc, hsend⟩
    · simp [hg, bidAmt, hp, esc d, escrowed]
    · rw [(sendFromModule_pays hsend mb d).2, esc d]
      simp [hg, bidAmt, hp, hoc, escrowed]
  | cancelBid hb hcoins hb1 | acceptBid _ _ _ _ _ hb hcoins hb1 =>
    exact ⟨AMap.wf_erase _ wf, mb, pn, escrow_payout hinv hb hcoins hb1⟩
  | _ => exact ⟨wf, mb, pn, esc⟩

/-- Every history: from any state satisfying the invariant, after any sequence of messages
(failed ones change nothing), the module account still holds exactly the open bids.  The module
account itself never signs (it has no key). -/
theorem C09_escrow_conserved_along_histories (ops : List (Int × Op)) :
    ∀ (s : State), EscrowInv s → (∀ p ∈ ops, acct s p.2.creator ≠ some s.moduleAcc) →
      EscrowInv (run s ops) :=
  fun s hinv hc =>
    (run_inv (P := fun t => EscrowInv t ∧ t.moduleAcc = s.moduleAcc ∧ t.canon = s.canon) ops
      (fun e he t t' ⟨hi, hm, hcn⟩ hs =>
        ⟨C09_step_preserves_escrow t t' e.1 e.2 hi (by unfold acct; rw [hm, hcn]; exact hc e he) hs,
          (step_cfg hs).1.trans hm, (step_cfg hs).2.2.2.trans hcn⟩)
      ⟨hinv, rfl, rfl⟩).1

/-- The empty module state (genesis without bids, module account empty) satisfies the invariant. -/
theorem C09_genesis (s : State) (hb : s.bids = []) (hm : s.moduleAcc ∈ s.blocked)
    (hp : s.polAcc ≠ s.moduleAcc) (h0 : ∀ d, bal s.bank s.moduleAcc d = 0) : EscrowInv s :=
  ⟨by rw [hb]; simp [AMap.WF, AMap.keys], hm, hp, by intro d; rw [h0 d]; simp [escrowed, hb, AMap.sumBy]⟩

/-- Cancelling returns to the signer's account exactly what the bid (stored under the signer's
address string as sent) holds, and removes the bid. -/
theorem C09_cancel_refunds_exactly (s s' : State) (h : Int) (c raw n : String)
    (hm : s.moduleAcc ∈ s.blocked) (hstep : step s h (.cancelBid c raw n) = some s') :
    ∃ cc b, acct s c = some cc ∧ AMap.get s.bids (c ++ n) = some b ∧ AMap.get s'.bids (c ++ n) = none ∧
      ∀ d, bal s'.bank cc d = bal s.bank cc d + bidAmt d b := by
  obtain ⟨cc, hcc, hd⟩ := step_delivered hstep
  cases hd with
  | cancelBid hb hcoins hb1 =>
  exact ⟨cc, _, hcc, hb, AMap.get_erase_self _ _,
    fun d => bidAmt_of_price hcoins ▸ (sendFromModule_pays hb1 hm d).1⟩

/-- Accepting pays the (signing) owner's account exactly what the bid holds and removes the bid. -/
theorem C09_accept_pays_owner_exactly (s s' : State) (h : Int) (c raw n bidder : String)
    (hm : s.moduleAcc ∈ s.blocked) (hstep : step s h (.acceptBid c raw n bidder) = some s') :
    ∃ cc b, acct s c = some cc ∧ AMap.get s.bids (bidder ++ n) = some b ∧
      AMap.get s'.bids (bidder ++ n) = none ∧
      ∀ d, bal s'.bank cc d = bal s.bank cc d + bidAmt d b := by
  obtain ⟨cc, hcc, hd⟩ := step_delivered hstep
  cases hd with
  | acceptBid _ _ _ _ _ hb hcoins hb1 =>
  exact ⟨cc, _, hcc, hb, AMap.get_erase_self _ _,
    fun d => bidAmt_of_price hcoins ▸ (sendFromModule_pays hb1 hm d).1⟩

/-- A repeated bid by the same account on the same name: the bidder's balance moves by exactly
(old escrow − new escrow), i.e. the replaced bid is refunded in full. -/
theorem C09_rebid_refunds_previous (s s' : State) (h : Int) (c raw n pr : String) (p : Option Coins)
    (cc : String) (hcc : acct s c = some cc)
    (old : BidRec) (hold : AMap.get s.bids (cc ++ n) = some old) (hob : acct s old.bidder = some cc)
    (hm : s.moduleAcc ∈ s.blocked) (hstep : step s h (.bid c raw n pr p) = some s') :
    ∀ d, bal s'.bank cc d = bal s.bank cc d + bidAmt d old - amt d (p.getD []) := by
  obtain ⟨cc', hcc', hd⟩ := step_delivered hstep
  cases hcc.symm.trans hcc'
  cases hd with
  | bid hp hb0 hb1 =>
  intro d
  rcases refundOld_spec hb0 with ⟨hg, -⟩ | ⟨old', ob, oc, hg, hob', hoc, hsend⟩
  · cases hold.symm.trans hg
  · cases hold.symm.trans hg
    cases hob.symm.trans hob'
    show bal _ cc d = _
    rw [bal_send hb1, if_neg (Ne.symm (sendFromModule_ne hsend hm)), if_pos rfl,
      (sendFromModule_pays hsend hm d).1, bidAmt_of_price hoc, hp]
    simp

/-- Registration and purchase move tokens through the module account without leaving anything
in it (special case of the invariant, stated on its own as the property does). -/
theorem C09_register_and_buy_leave_no_residue (s s' : State) (h : Int) (op : Op)
    (hinv : EscrowInv s) (hc : acct s op.creator ≠ some s.moduleAcc) (hstep : step s h op = some s')
    (hop : (∃ c r n d y p, op = .register c r n d y p) ∨ (∃ c r n, op = .buy c r n)) :
    ∀ d, bal s'.bank s'.moduleAcc d = bal s.bank s.moduleAcc d := by
  intro d
  rw [(C09_step_preserves_escrow s s' h op hinv hc hstep).escrow d, hinv.escrow d]
  -- neither message touches the bids
  obtain ⟨cc, -, hd⟩ := step_delivered hstep
  rcases hop with ⟨c, r, n, dd, y, p, rfl⟩ | ⟨c, r, n, rfl⟩ <;> cases hd <;> rfl

/-- Non-vacuity: a concrete state with one open bid of 500 ujkl meets the invariant, and a second
bid of 300 by the same account on the same name succeeds and keeps it. -/
def exState : State :=
  { names := [], forsale := [], inits := [], primary := [],
    bids := [("alice" ++ "foo.jkl", { index := "alicefoo.jkl", name := "foo.jkl", bidder := "alice", priceRaw := "500ujkl", price := some [("ujkl", 500)] })],
    bank := [(("alice", "ujkl"), 1000), (("rnsmod", "ujkl"), 500)],
    blocked := ["rnsmod"], moduleAcc := "rnsmod", polAcc := "pol",
    canon := [("alice", "alice"), ("ALICE", "alice")] }

example : EscrowInv exState := by
  refine ⟨by simp [AMap.WF, AMap.keys, exState], by decide +kernel, by decide +kernel, ?_⟩
  intro d
  by_cases hd : d = "ujkl"
  · subst hd; decide +kernel
  · have h1 : bal exState.bank exState.moduleAcc d = 0 := by
      simp [exState, bal, AMap.get, Ne.symm hd]
    rw [h1]; simp [escrowed, exState, AMap.sumBy, bidAmt, amt]
    intro e; exact absurd e.symm hd

example : (step exState 5 (.bid "alice" "foo.jkl" "foo.jkl" "300ujkl" (some [("ujkl", 300)]))).isSome = true := by
  decide +kernel

/-- A bid is identified by bidder ‖ name, a name by its `name.tld` key: the escrow invariant sums over exactly these records.  Fingerprints of the key constructors of x/rns/types/key*.go
the model assumes; `Generated.keyFns_rns` is recomputed from the source on every
run (the declarations are listed in Generated/KeyFacts.lean). -/
def C09_expectedKeys : List (String × String) := [
  ("x/rns/types/key_bids.go:var _…", "9f4fce2c5ae85adc"),
  ("x/rns/types/key_bids.go:const BidsKeyPrefix…", "8c36bfcf1d342151"),
  ("x/rns/types/key_bids.go:BidsKey", "8556ba2a0ddcce45"),
  ("x/rns/types/key_forsale.go:var _…", "9f4fce2c5ae85adc"),
  ("x/rns/types/key_forsale.go:const ForsaleKeyPrefix…", "a0cae409589f805c"),
  ("x/rns/types/key_forsale.go:ForsaleKey", "430c9e1c73d46ffe"),
  ("x/rns/types/key_init.go:var _…", "9f4fce2c5ae85adc"),
  ("x/rns/types/key_init.go:const InitKeyPrefix…", "a31cbd45e6f99593"),
  ("x/rns/types/key_init.go:InitKey", "8a3409ef2feaf0ec"),
  ("x/rns/types/key_names.go:var _…", "9f4fce2c5ae85adc"),
  ("x/rns/types/key_names.go:const NamesKeyPrefix…", "96761d5542885872"),
  ("x/rns/types/key_names.go:NamesKey", "2d192e90e18debfc"),
  ("x/rns/types/key_names.go:PrimaryNameKey", "39d23d3a6c18050c"),
  ("x/rns/types/key_whois.go:var _…", "9f4fce2c5ae85adc"),
  ("x/rns/types/key_whois.go:const WhoisKeyPrefix…", "1e0c8b1ecefa40f7"),
  ("x/rns/types/key_whois.go:WhoisKey", "0811970c20d7f2b4"),
  ("x/rns/types/keys.go:const ModuleName…", "816ef172ef11ae9e"),
  ("x/rns/types/keys.go:KeyPrefix", "caccc65e7667915d")]

theorem C09_store_keys_as_modelled : Generated.keyFns_rns = C09_expectedKeys := rfl

/-- **The open bids as clients read them** (`AllBids` through `query.Paginate`): whatever the page
size, following `NextKey` returns every open bid exactly once — the records whose prices the
module account holds (`EscrowInv.escrow`). -/
theorem C09_allBids_lists_every_open_bid (s : State) (limit fuel : Nat)
    (hraw : (s.bids.map (fun kv => Query.rawKey kv.1)).Nodup) (hf : s.bids.length + 1 ≤ fuel) :
    ∃ l, Canine.Query.walk (Query.bidEntries s) limit false fuel none [] = some l ∧ l.Perm (s.bids.map (·.2)) :=
  Canine.Query.walk_entries_perm s.bids Query.rawKey limit fuel hraw hf

theorem C09_bid_query_reads_the_store (s : State) (index : String) :
    Query.run s (.bid index) = (match AMap.get s.bids index with | some b => .bid b | none => .err) := rfl

end Canine.Rns
