/-
C13 — Block emission is non-increasing, non-negative and fully distributed.
-/
import Canine.Mint.Model
import Canine.Generated.PureFns
import Canine.Generated.KeyFacts
import Canine.Proofs.Dec
namespace Canine.Mint

theorem eps_nonneg (dec : Int) (h : 0 ≤ dec) :
    0 ≤ ((Dec.quo? (Dec.ofInt dec) (Dec.ofInt blocksPerYear)).getD Dec.zero).raw := by
  rw [quo_ofInt_eq blocksPerYear dec h (by decide)]
  exact rawShare_nonneg _ _ h (by decide)

theorem C13_next_nonneg (prev dec : Int) : 0 ≤ nextMint prev dec := by
  unfold nextMint
  simp only
  split <;> omega

theorem trunc_sub_le (prev : Int) (d : Dec) (hd : 0 ≤ d.raw) :
    Dec.trunc (Dec.sub (Dec.ofInt prev) d) ≤ prev := by
  unfold Dec.trunc chopTrunc tdiv Dec.sub Dec.ofInt precision
  simp only
  split <;> (rw [if_pos (by omega)]; omega)

theorem C13_next_le_prev (prev dec : Int) (hp : 0 ≤ prev) (hd : 0 ≤ dec) : nextMint prev dec ≤ prev := by
  have he := eps_nonneg dec hd
  have := trunc_sub_le prev _ he
  unfold nextMint
  simp only
  split <;> omega

theorem C13_next_eq_prev_of_zero_decrease (prev : Int) (hp : 0 ≤ prev) : nextMint prev 0 = prev := by
  unfold nextMint Dec.quo? Dec.ofInt blocksPerYear Dec.trunc chopTrunc Dec.sub tdiv precision chopRound chopRoundNat
  simp
  omega

/-- Each recipient's share is the configured percentage rounded down. -/
theorem C13_share_is_floor (ratio m : Int) (hr : 0 ≤ ratio) (hm : 0 ≤ m) : share ratio m = ratio * m / 100 := by
  -- `ratio/100` is the decimal with raw value `ratio·10^16`, exactly
  have hq : (Dec.quoInt (Dec.ofInt ratio) 100).raw = ratio * 10000000000000000 := by
    simp only [Dec.quoInt, Dec.ofInt, tdiv, precision]
    rw [if_pos (by omega), if_pos (by omega)]
    omega
  have hraw : (Dec.mulInt (Dec.quoInt (Dec.ofInt ratio) 100) m).raw = ratio * m * 10000000000000000 := by
    simp only [Dec.mulInt, hq]
    rw [Int.mul_right_comm]
  unfold share
  rw [Dec.trunc_of_nonneg _ (by rw [hraw]; exact Int.mul_nonneg (Int.mul_nonneg hr hm) (by omega)), hraw]
  generalize ratio * m = x
  unfold precision
  omega

/-- the floors by 100 of three non-negative numbers that sum to at most `100·m`: linear arithmetic
with four floors (the callers put the products `ratio·m` for the `xᵢ`) -/
theorem floors_le (x1 x2 x3 m : Int) (h1 : 0 ≤ x1) (h2 : 0 ≤ x2) (h3 : 0 ≤ x3) (hs : x1 + x2 + x3 ≤ 100 * m) :
    0 ≤ x1 / 100 ∧ 0 ≤ x2 / 100 ∧ 0 ≤ x3 / 100 ∧
    x1 / 100 + x2 / 100 + x3 / 100 ≤ m ∧
    -- what stays behind exceeds the unallocated part (rounded down) by at most 3 units
    m - (x1 / 100 + x2 / 100 + x3 / 100) - (100 * m - (x1 + x2 + x3)) / 100 ≤ 3 ∧
    0 ≤ m - (x1 / 100 + x2 / 100 + x3 / 100) - (100 * m - (x1 + x2 + x3)) / 100 ∧
    (x1 + x2 + x3 = 100 * m → m - (x1 / 100 + x2 / 100 + x3 / 100) < 3) := by
  omega

theorem ratios_mul {p : Params} (hp : validParams p) {m : Int} (hm : 0 ≤ m) :
    0 ≤ p.stakerRatio * m ∧ 0 ≤ p.devGrantsRatio * m ∧ 0 ≤ p.providerRatio * m ∧
    p.stakerRatio * m + p.devGrantsRatio * m + p.providerRatio * m ≤ 100 * m := by
  obtain ⟨-, -, h2, h3, h4, h5⟩ := hp
  refine ⟨Int.mul_nonneg h2 hm, Int.mul_nonneg h3 hm, Int.mul_nonneg h4 hm, ?_⟩
  rw [← Int.add_mul, ← Int.add_mul]
  exact Int.mul_le_mul_of_nonneg_right h5 hm

theorem blockMint_paid (p : Params) (s : State) {m a b c : Int}
    (hm : nextMint (s.last.getD p.tokensPerBlock) p.mintDecrease = m) (ha : share p.stakerRatio m = a)
    (hb : share p.devGrantsRatio m = b) (hc : share p.providerRatio m = c)
    (h0 : 0 ≤ a ∧ 0 ≤ b ∧ 0 ≤ c) (hle : a + b + c ≤ s.modBal + m) :
    blockMint p s = ({ last := some m, supply := s.supply + m, stakers := s.stakers + a, dev := s.dev + b,
                       stipend := s.stipend + c, modBal := s.modBal + m - a - b - c }, m) := by
  unfold blockMint
  simp only [hm, ha, hb, hc]
  rw [if_neg (by omega), if_neg (by omega), if_neg (by omega)]

/-- What one block does, for every valid parameter set, every state whose module balance is
non-negative and whose recorded previous emission is non-negative.  (`validParams` asks the ratios
to sum to at most 100; `Params.Validate`, x/jklmint/types/params.go, only checks each is
non-negative, so that part is an assumption on governance.)  Supply grows by exactly the emission;
stakers, developer grants and stipend receive their percentages rounded down; the module keeps
the rest; the emission is recorded for the next block; nothing else exists to be credited. -/
theorem C13_blockMint_spec (p : Params) (s : State) (hp : validParams p) (hb : 0 ≤ s.modBal)
    (hl : ∀ x, s.last = some x → 0 ≤ x) :
    let prev := s.last.getD p.tokensPerBlock
    let m := nextMint prev p.mintDecrease
    let r := blockMint p s
    r.2 = m ∧ 0 ≤ m ∧ m ≤ prev ∧
    r.1.supply = s.supply + m ∧
    r.1.stakers = s.stakers + p.stakerRatio * m / 100 ∧
    r.1.dev = s.dev + p.devGrantsRatio * m / 100 ∧
    r.1.stipend = s.stipend + p.providerRatio * m / 100 ∧
    r.1.modBal = s.modBal + (m - (p.stakerRatio * m / 100 + p.devGrantsRatio * m / 100 + p.providerRatio * m / 100)) ∧
    r.1.last = some m := by
  intro prev m r
  have hm : 0 ≤ m := C13_next_nonneg _ _
  obtain ⟨k1, k2, k3, ks⟩ := ratios_mul hp hm
  obtain ⟨q1, q2, q3, q4, -, -, -⟩ := floors_le _ _ _ m k1 k2 k3 ks
  obtain ⟨h0, h1, h2, h3, h4, h5⟩ := hp
  have hprev : 0 ≤ prev := by
    show 0 ≤ s.last.getD p.tokensPerBlock
    cases hs : s.last with
    | none => simpa using h0
    | some x => simpa using hl x hs
  have hle : m ≤ prev := C13_next_le_prev _ _ hprev h1
  have e : r = _ := blockMint_paid p s (m := m) rfl (C13_share_is_floor _ m h2 hm) (C13_share_is_floor _ m h3 hm)
    (C13_share_is_floor _ m h4 hm) ⟨q1, q2, q3⟩ (by omega)
  rw [e]
  refine ⟨rfl, hm, hle, rfl, rfl, rfl, rfl, ?_, rfl⟩
  show _ - _ - _ - _ = _
  omega

/-- The module keeps only the rounding remainder: fewer than three base units per block when the
ratios sum to 100, and in general at most three units above the unallocated percentage. -/
theorem C13_retained_bound (p : Params) (m : Int) (hp : validParams p) (hm : 0 ≤ m) :
    let kept := m - (p.stakerRatio * m / 100 + p.devGrantsRatio * m / 100 + p.providerRatio * m / 100)
    let unalloc := (100 - (p.stakerRatio + p.devGrantsRatio + p.providerRatio)) * m / 100
    0 ≤ kept - unalloc ∧ kept - unalloc ≤ 3 ∧
    (p.stakerRatio + p.devGrantsRatio + p.providerRatio = 100 → 0 ≤ kept ∧ kept < 3) := by
  obtain ⟨k1, k2, k3, ks⟩ := ratios_mul hp hm
  obtain ⟨-, -, -, q4, q5, q6, q7⟩ := floors_le _ _ _ m k1 k2 k3 ks
  intro kept unalloc
  have e : unalloc = (100 * m - (p.stakerRatio * m + p.devGrantsRatio * m + p.providerRatio * m)) / 100 := by
    show _ * m / 100 = _
    rw [Int.sub_mul, Int.add_mul, Int.add_mul]
  rw [e]
  refine ⟨q6, q5, fun h => ⟨by show 0 ≤ m - _; omega, q7 ?_⟩⟩
  rw [← Int.add_mul, ← Int.add_mul, h]

def Good (s : State) : Prop := 0 ≤ s.modBal ∧ ∀ x, s.last = some x → 0 ≤ x

theorem blockMint_good (p : Params) (s : State) (hp : validParams p) (hg : Good s) :
    Good (blockMint p s).1 := by
  obtain ⟨hb, hl⟩ := hg
  have h := C13_blockMint_spec p s hp hb hl
  simp only at h
  obtain ⟨_, hm, _, _, _, _, _, hmod, hlast⟩ := h
  obtain ⟨k1, k2, k3, ks⟩ := ratios_mul hp hm
  obtain ⟨-, -, -, q4, -⟩ := floors_le _ _ _ _ k1 k2 k3 ks
  refine ⟨by rw [hmod]; omega, ?_⟩
  intro x hx
  rw [hlast] at hx; cases hx; exact hm

/-- the head is between 0 and `bound`, and each later element between 0 and the one before it -/
def NonIncreasingFrom : Int → List Int → Prop
  | _, [] => True
  | bound, m :: rest => 0 ≤ m ∧ m ≤ bound ∧ NonIncreasingFrom m rest

/-- Emissions are non-negative and non-increasing also when governance changes the (valid)
parameters between blocks: after the first block every emission is bounded by the one before it,
whatever the new parameters say. -/
theorem C13_emissions_nonincreasing_param_changes :
    ∀ (ps : List Params) (s : State), (∀ p ∈ ps, validParams p) → Good s →
      match ps with
      | [] => True
      | p :: _ => NonIncreasingFrom (s.last.getD p.tokensPerBlock) (runBlocksP ps s).2
  | [], _, _, _ => trivial
  | p :: ps, s, hv, hg => by
    obtain ⟨hb, hl⟩ := hg
    have hp := hv p (by simp)
    have h := C13_blockMint_spec p s hp hb hl
    simp only at h
    obtain ⟨h1, hm, hle, _, _, _, _, _, hlast⟩ := h
    have hg' := blockMint_good p s hp ⟨hb, hl⟩
    have ih := C13_emissions_nonincreasing_param_changes ps (blockMint p s).1
      (fun q hq => hv q (List.mem_cons_of_mem _ hq)) hg'
    simp only [runBlocksP, NonIncreasingFrom]
    rw [h1]
    refine ⟨hm, hle, ?_⟩
    cases ps with
    | nil => simp [runBlocksP, NonIncreasingFrom]
    | cons q qs =>
      simp only at ih
      rw [hlast] at ih
      simpa using ih

theorem runBlocks_eq_runBlocksP (p : Params) : ∀ (n : Nat) (s : State),
    runBlocks p n s = runBlocksP (List.replicate n p) s
  | 0, _ => rfl
  | n + 1, s => by
    simp only [runBlocks, List.replicate_succ, runBlocksP, runBlocks_eq_runBlocksP p n]

/-- Every run of consecutive blocks under a valid parameter set: each emission is non-negative
and no larger than the previous block's (the first one no larger than the recorded previous
emission, or `TokensPerBlock` when there is none). -/
theorem C13_emissions_nonincreasing (p : Params) (hp : validParams p) :
    ∀ (n : Nat) (s : State), Good s →
      NonIncreasingFrom (s.last.getD p.tokensPerBlock) (runBlocks p n s).2
  | 0, s, _ => by simp [runBlocks, NonIncreasingFrom]
  | n + 1, s, hg => by
    rw [runBlocks_eq_runBlocksP]
    exact C13_emissions_nonincreasing_param_changes (List.replicate (n + 1) p) s
      (fun q hq => (List.eq_of_mem_replicate hq) ▸ hp) hg

theorem C13_supply_grows_by_emissions (p : Params) (hp : validParams p) :
    ∀ (n : Nat) (s : State), Good s →
      (runBlocks p n s).1.supply = s.supply + (runBlocks p n s).2.sum
  | 0, s, _ => by simp [runBlocks]
  | n + 1, s, hg => by
    obtain ⟨hb, hl⟩ := hg
    have h := C13_blockMint_spec p s hp hb hl
    simp only at h
    obtain ⟨h1, _, _, hsup, _⟩ := h
    have hg' := blockMint_good p s hp ⟨hb, hl⟩
    have ih := C13_supply_grows_by_emissions p hp n (blockMint p s).1 hg'
    simp only [runBlocks, List.sum_cons]
    rw [ih, hsup, h1]; omega

/-- Regression witness: the unclamped emission goes negative for a yearly decrease of ten
tokens per block (a parameter value the validator accepts). -/
def nextMintUnfixed (prev dec : Int) : Int :=
  Dec.trunc (Dec.sub (Dec.ofInt prev) ((Dec.quo? (Dec.ofInt dec) (Dec.ofInt blocksPerYear)).getD Dec.zero))
example : nextMintUnfixed 5 52560000 = -5 := by decide +kernel
example : nextMint 5 52560000 = 0 := by decide +kernel
/-- non-vacuity: the default parameters are valid and one block from an empty ledger mints -/
def defaultParams : Params := { tokensPerBlock := 4200000, mintDecrease := 6, stakerRatio := 80, devGrantsRatio := 8, providerRatio := 12 }
example : validParams defaultParams := by simp [validParams, defaultParams]
example : (blockMint defaultParams { last := none, supply := 0, stakers := 0, dev := 0, stipend := 0, modBal := 0 })
    = ({ last := some 4199999, supply := 4199999, stakers := 3359999, dev := 335999, stipend := 503999, modBal := 2 }, 4199999) := by decide +kernel

/-- `utils.GetMintForBlock`, translated from x/jklmint/utils/mint.go on every run, is the model's
`nextMint` (with the chain's blocks-per-year constant the division never fails). -/
theorem C13_generated_emission_step_is_the_model (prev dec : Int) :
    Generated.Pure.GetMintForBlock prev blocksPerYear dec = some (nextMint prev dec) ∧
    Generated.Pure.GetMintForBlock_inputs = [] ∧
    -- … and `BlockMint` passes it the same blocks-per-year constant, (365·24·60·60)/6
    Generated.Pure.BlockMint_bpy = blocksPerYear := by
  refine ⟨?_, rfl, by decide⟩
  unfold Generated.Pure.GetMintForBlock nextMint
  have hq : ∃ q, Dec.quo? (Dec.ofInt dec) (Dec.ofInt blocksPerYear) = some q := by
    unfold Dec.quo?
    have : (Dec.ofInt blocksPerYear).raw ≠ 0 := by decide
    simp [this]
  obtain ⟨q, hq⟩ := hq
  simp only [hq, bind, Option.bind, Option.getD]
  by_cases h : Dec.trunc (Dec.sub (Dec.ofInt prev) q) < 0 <;> simp [h]

/-- The three share computations at the head of `mintStaker`, `mintDevGrants` and
`mintStorageProviderStipend`, translated from x/jklmint/keeper/mint.go on every run, are the model's
`share` of the respective ratio parameter — `NewDec(ratio).QuoInt64(100).MulInt64(m).TruncateInt64()`,
exact decimal arithmetic, no `int64` product that could wrap. -/
theorem C13_generated_shares_are_the_model (ratio m : Int) (denom : String) :
    Generated.Pure.mintStaker ratio m denom = share ratio m ∧
    Generated.Pure.mintDevGrants ratio m denom = share ratio m ∧
    Generated.Pure.mintStorageProviderStipend ratio m denom = share ratio m ∧
    Generated.Pure.mintStaker_inputs = ["params.StakerRatio"] ∧
    Generated.Pure.mintDevGrants_inputs = ["params.DevGrantsRatio"] ∧
    Generated.Pure.mintStorageProviderStipend_inputs = ["params.StorageProviderRatio"] :=
  ⟨rfl, rfl, rfl, rfl, rfl, rfl⟩

/-- Which store key of the `jklmint` parameter subspace is bound to which field: the configured
percentages of C13 are the ones governance sets by key. -/
def C13_expectedParamPairs : List (String × String × String) := [
  ("KeyMintDenom", "&p.MintDenom", "validateMintDenom"),
  ("KeyTokensPerBlock", "&p.TokensPerBlock", "validateInt64"),
  ("KeyDevGrants", "&p.DevGrantsRatio", "validateInt64"),
  ("KeyMintIncrease", "&p.MintDecrease", "validateInt64"),
  ("KeyStakerRatio", "&p.StakerRatio", "validateInt64"),
  ("KeyStorageStipend", "&p.StorageStipendAddress", "validateStipend"),
  ("KeyProviderRatio", "&p.StorageProviderRatio", "validateInt64")]

theorem C13_param_keys_as_modelled : Generated.paramPairs_jklmint = C13_expectedParamPairs := rfl

end Canine.Mint
