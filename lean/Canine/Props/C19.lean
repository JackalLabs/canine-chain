/-
C19 — Exporting and re-importing genesis preserves every custom module's state.
The repository's source (`x/<module>/genesis.go`) carries every record kind the custom modules
write; the one exception is the *history* of jklmint's per-height emission records, of which
the genesis carries the newest only (recorded finding).  Proved here: the round trip of every kind a
genesis carries, for any store; the exact fate of a latest-only kind.
-/
import Canine.Genesis.Model
import Canine.Proofs.GenesisModules
import Canine.Proofs.GenesisStorageInv
namespace Canine.Genesis

variable {V : Type}

/-- For every store of a kind whose entries sit under the key
built from their own fields (the invariant every `Set…` maintains) and whose keys are distinct,
exporting the values and importing them into an empty store gives back the identical store —
same keys, same values, same order. -/
theorem C19_roundtrip_kind (keyOf : V → String) (m : AMap String V) (hwf : AMap.WF m)
    (hkey : ∀ k v, (k, v) ∈ m → keyOf v = k) :
    importKind keyOf (exportKind m) = m :=
  -- `importKind keyOf` is the loop `setAll keyOf · []`, `exportKind` lists the values
  setAllWith_map keyOf id (·.2) m [] (fun kv hm => ⟨hkey kv.1 kv.2 hm, rfl⟩) hwf

theorem C19_export_idempotent (keyOf : V → String) (m : AMap String V) (hwf : AMap.WF m)
    (hkey : ∀ k v, (k, v) ∈ m → keyOf v = k) :
    exportKind (importKind keyOf (exportKind m)) = exportKind m := by
  rw [C19_roundtrip_kind keyOf m hwf hkey]

/-- The exported list passes the duplicate-index validation of `GenesisState.Validate`. -/
theorem C19_validate_accepts_export (keyOf : V → String) (m : AMap String V) (hwf : AMap.WF m)
    (hkey : ∀ k v, (k, v) ∈ m → keyOf v = k) :
    ((exportKind m).map keyOf).Nodup := by
  have : (exportKind m).map keyOf = AMap.keys m := by
    simp only [exportKind, AMap.vals, AMap.keys, List.map_map]
    apply List.map_congr_left
    intro p hp
    exact hkey p.1 p.2 hp
  rw [this]; exact hwf

/-- A kind that no genesis carries is lost: the imported module has no record of it, whatever
the store held.  (`omittedKinds` of Canine/Genesis/Model.lean lists such kinds; it is empty.) -/
theorem C19_omitted_kind_lost (keyOf : V → String) (m : AMap String V) (hne : m ≠ []) :
    importKind keyOf ([] : List V) ≠ m := by
  simp [importKind]; exact fun h => hne h

/-- no kind is both carried and omitted (a finite check over the tables; vacuous while `omittedKinds`
is empty) -/
theorem C19_tables_disjoint :
    (exportedKinds.all (fun p => p.2.all (fun k => !(lookup omittedKinds p.1).contains k))) = true := by
  decide +kernel

/-- the table of omitted kinds is empty; that the tables cover every `Set…` call of the keepers is
read off x/*/genesis.go by hand (trusted) -/
theorem C19_no_kind_omitted : omittedKinds = [] := rfl

/-- **Fate of a latest-only kind** (jklmint's per-height emission records): the import holds
exactly the record of the last height when the store had one — in particular the record the next
block reads survives — and nothing else. -/
theorem C19_latest_only_roundtrip (keyOf : V → String) (m : AMap String V) (lastKey : String) (v : V)
    (hget : AMap.get m lastKey = some v) (hkey : keyOf v = lastKey) :
    importKind keyOf (exportLatest m lastKey) = [(lastKey, v)] := by
  simp [importKind, exportLatest, hget, AMap.set, hkey]

theorem C19_latest_only_empty (keyOf : V → String) (m : AMap String V) (lastKey : String)
    (hget : AMap.get m lastKey = none) :
    importKind keyOf (exportLatest m lastKey) = [] := by
  simp [importKind, exportLatest, hget]

/-- the record the next block reads (that of the last height) is readable after the import with
the same value -/
theorem C19_latest_record_survives (keyOf : V → String) (m : AMap String V) (lastKey : String) (v : V)
    (hget : AMap.get m lastKey = some v) (hkey : keyOf v = lastKey) :
    AMap.get (importKind keyOf (exportLatest m lastKey)) lastKey = some v := by
  rw [C19_latest_only_roundtrip keyOf m lastKey v hget hkey]; simp [AMap.get]

/-- older records of a latest-only kind are lost (recorded finding) -/
theorem C19_latest_only_loses_history (keyOf : V → String) (m : AMap String V) (lastKey k : String) (v : V)
    (hget : AMap.get m lastKey = some v) (hkey : keyOf v = lastKey) (hk : k ≠ lastKey) :
    AMap.get (importKind keyOf (exportLatest m lastKey)) k = none := by
  rw [C19_latest_only_roundtrip keyOf m lastKey v hget hkey]
  simp [AMap.get]; exact fun h => hk h.symm

/-- non-vacuity: a two-record store of names keyed by "name.tld" round-trips -/
example : importKind (fun (v : String × Nat) => v.1 ++ ".jkl") (exportKind [("a.jkl", ("a", 1)), ("b.jkl", ("b", 2))])
    = [("a.jkl", ("a", 1)), ("b.jkl", ("b", 2))] := by decide +kernel


/-!
# C19 on the concrete module models

`Canine/Genesis/Modules.lean` models `ExportGenesis`, `Validate` and `InitGenesis` of each custom module
over the module's own executable state; the theorems below are about those functions.

What "the same module state" means.  A store of the chain is a set of (raw key ↦ value) pairs; the
models keep it as an association list whose *order of bindings* is an artefact (no handler or query
depends on it: lookups go by key, listings sort by raw key).  `ExportGenesis` lists a store in
iterator order, so the imported state holds the same bindings in iterator order:

For each module `M`: `C19_M_roundtrip` gives the imported state explicitly (`M.storeOrdered s`: `s` with every
store listed in iterator order, everything else equal); `_roundtrip_records` spells it out (every store
answers every key as before and is a permutation of the old one, all other fields are equal);
`_export_idempotent` (the second export is *equal* to the first, as lists, in order),
`_validate_accepts_export`, `_queries_preserved` (every query of Canine/Query/M.lean).

Hypotheses: `M.Inv s` — keys distinct and every record under the key built from its own fields (what
every `Set…` maintains) — and, for the stores whose key has several '/'-separated fields,
`M.RawInv s`: distinct decoded keys have distinct raw keys (the model keeps decoded keys; two
records with one raw key would be one record on the chain).
-/

theorem C19_oracle_roundtrip (s : Canine.Oracle.State) (h : Oracle.Inv s) :
    Oracle.initGenesis (Oracle.blank s) (Oracle.exportGenesis s) = Oracle.storeOrdered s := by
  simp only [Oracle.initGenesis, Oracle.blank, Oracle.exportGenesis, Oracle.storeOrdered]
  rw [setAll_getAll _ _ _ h.1 h.2]

theorem C19_oracle_roundtrip_records (s : Canine.Oracle.State) (h : Oracle.Inv s) :
    let s' := Oracle.initGenesis (Oracle.blank s) (Oracle.exportGenesis s)
    (∀ n, AMap.get s'.feeds n = AMap.get s.feeds n) ∧ s'.feeds.Perm s.feeds ∧
      s'.bank = s.bank ∧ s'.moduleAcc = s.moduleAcc ∧ s'.deposit = s.deposit ∧ s'.blocked = s.blocked := by
  intro s'
  have e : s' = Oracle.storeOrdered s := C19_oracle_roundtrip s h
  rw [e]; unfold Oracle.storeOrdered
  exact ⟨get_inStoreOrder _ h.1, inStoreOrder_perm _ _, rfl, rfl, rfl, rfl⟩

theorem C19_oracle_roundtrip_of_ordered (s : Canine.Oracle.State) (h : Oracle.Inv s)
    (ho : inStoreOrder Oracle.feedRaw s.feeds = s.feeds) :
    Oracle.initGenesis (Oracle.blank s) (Oracle.exportGenesis s) = s := by
  rw [C19_oracle_roundtrip s h, Oracle.storeOrdered, ho]

theorem C19_oracle_export_idempotent (s : Canine.Oracle.State) (h : Oracle.Inv s) :
    Oracle.exportGenesis (Oracle.initGenesis (Oracle.blank s) (Oracle.exportGenesis s)) = Oracle.exportGenesis s := by
  rw [C19_oracle_roundtrip s h, Oracle.export_storeOrdered s h]

theorem C19_oracle_validate_accepts_export (s : Canine.Oracle.State) (h : Oracle.Inv s) :
    Oracle.validate (Oracle.exportGenesis s) = true := by
  simp only [Oracle.validate, Oracle.exportGenesis, Oracle.paramsValid, Bool.and_true]
  exact noDup_getAll (fun f : Canine.Oracle.Feed => f.name) Oracle.feedRaw s.feeds h.2 (Oracle.rawNodup h)

theorem C19_oracle_queries_preserved (s : Canine.Oracle.State) (h : Oracle.Inv s) (q : Canine.Oracle.Query.Q) :
    Canine.Oracle.Query.run (Oracle.initGenesis (Oracle.blank s) (Oracle.exportGenesis s)) q =
      Canine.Oracle.Query.run s q := by
  rw [C19_oracle_roundtrip s h, Oracle.run_storeOrdered s h q]

def Oracle.runOps (s : Canine.Oracle.State) : List (Int × Canine.Oracle.Op) → Canine.Oracle.State
  | [] => s
  | (now, op) :: rest => Oracle.runOps ((Canine.Oracle.step s now op).getD s) rest

theorem C19_oracle_inv_along_histories (ops : List (Int × Canine.Oracle.Op)) :
    ∀ s, Oracle.Inv s → Oracle.Inv (Oracle.runOps s ops) :=
  run_inv (fun _ => rfl) (fun _ _ _ => rfl) (fun s x s' h hs => Oracle.inv_step s s' x.1 x.2 h hs) ops

theorem C19_filetree_roundtrip (s : Canine.Filetree.State) (h : Filetree.Inv s) :
    Filetree.initGenesis (Filetree.blank s) (Filetree.exportGenesis s) = Filetree.storeOrdered s := by
  simp only [Filetree.initGenesis, Filetree.blank, Filetree.exportGenesis, Filetree.storeOrdered]
  rw [setAll_getAll _ _ _ h.1 h.2.1,
    setAllWith_getAllWith Filetree.PubkeyRec.address Filetree.PubkeyRec.key _ Filetree.pubkeyRaw s.pubkeys h.2.2
      (fun kv _ => ⟨rfl, rfl⟩)]

theorem C19_filetree_roundtrip_records (s : Canine.Filetree.State) (h : Filetree.Inv s) :
    let s' := Filetree.initGenesis (Filetree.blank s) (Filetree.exportGenesis s)
    (∀ k, AMap.get s'.files k = AMap.get s.files k) ∧ s'.files.Perm s.files ∧
      (∀ a, AMap.get s'.pubkeys a = AMap.get s.pubkeys a) ∧ s'.pubkeys.Perm s.pubkeys := by
  intro s'
  have e : s' = Filetree.storeOrdered s := C19_filetree_roundtrip s h
  rw [e]; unfold Filetree.storeOrdered
  exact ⟨get_inStoreOrder _ h.1, inStoreOrder_perm _ _, get_inStoreOrder _ h.2.2, inStoreOrder_perm _ _⟩

theorem C19_filetree_export_idempotent (s : Canine.Filetree.State) (h : Filetree.Inv s) (hr : Filetree.RawInv s) :
    Filetree.exportGenesis (Filetree.initGenesis (Filetree.blank s) (Filetree.exportGenesis s)) =
      Filetree.exportGenesis s := by
  rw [C19_filetree_roundtrip s h, Filetree.export_storeOrdered s h hr]

theorem C19_filetree_validate_accepts_export (s : Canine.Filetree.State) (h : Filetree.Inv s) (hr : Filetree.RawInv s) :
    Filetree.validate (Filetree.exportGenesis s) = true := by
  simp only [Filetree.validate, Filetree.exportGenesis, Bool.and_eq_true]
  exact ⟨noDup_getAll (fun e : Canine.Filetree.Entry => (e.address, e.owner)) Canine.Filetree.Query.rawKey s.files h.2.1 hr,
    noDup_getAllWith Filetree.PubkeyRec.address _ Filetree.pubkeyRaw s.pubkeys (fun _ _ => rfl) (Filetree.pubkeys_rawNodup h)⟩

theorem C19_filetree_queries_preserved (s : Canine.Filetree.State) (h : Filetree.Inv s) (hr : Filetree.RawInv s)
    (q : Canine.Filetree.Query.Q) :
    Canine.Filetree.Query.run (Filetree.initGenesis (Filetree.blank s) (Filetree.exportGenesis s)) q =
      Canine.Filetree.Query.run s q := by
  rw [C19_filetree_roundtrip s h, Filetree.run_storeOrdered s h hr q]

/-- the filetree invariant holds along every history of messages from the empty tree (the `Keyed`
half is C10's `C10_storeInv_along_histories`; key distinctness is proved here) -/
theorem C19_filetree_inv_along_histories (H : String → String) (ops : List Canine.Filetree.Op) :
    Filetree.Inv (Filetree.runOps H { files := [], pubkeys := [] } ops) :=
  run_inv (fun _ => rfl) (fun _ _ _ => rfl) (fun s op s' h hs => Filetree.inv_step H s s' op h hs) ops _ Filetree.inv_empty

theorem C19_notifications_roundtrip (s : Canine.Notif.State) (h : Notif.Inv s) :
    Notif.initGenesis (Notif.blank s) (Notif.exportGenesis s) = Notif.storeOrdered s := by
  have p := inStoreOrder_perm Canine.Notif.Query.rawKey s.store
  have hnd : AMap.WF (Notif.storeOrdered s).store := AMap.wf_of_perm (Notif.storeOrdered_perm s).symm h.1
  have hnd1 : (AMap.keys ([] ++ (Notif.storeOrder s).filter (fun kv => Notif.isNotificationKey kv.1))).Nodup := by
    simp only [Notif.storeOrdered, AMap.WF, AMap.keys, List.map_append, List.nil_append] at hnd ⊢
    exact (List.nodup_append.mp hnd).1
  simp only [Notif.initGenesis, Notif.blank, Notif.exportGenesis, Notif.storeOrdered]
  -- the two `InitGenesis` loops: the notifications into the empty store, the block entries after them
  rw [setAllWith_map (fun n : Canine.Notif.Notif => Notif.notifKey n.to n.sender n.time) Notif.Entry.notif
      (fun kv => Notif.asNotif kv.2) _ [] ?_ hnd1]
  · rw [List.nil_append,
      setAllWith_map (fun b : Notif.BlockRec => Notif.blockKey b.address b.blockedAddress)
        (fun b => Notif.Entry.block b.address b.blockedAddress) (fun kv => Notif.asBlock kv.2) _ _ ?_ hnd]
    intro kv hm
    rw [List.mem_filter] at hm
    exact Notif.keyInv_block h.2 kv (p.subset hm.1) (by simpa using hm.2)
  · intro kv hm
    rw [List.mem_filter] at hm
    exact Notif.keyInv_notif h.2 kv (p.subset hm.1) hm.2

/-- the one store holds the same records: every key answers as before (notification keys and
block-list keys alike) -/
theorem C19_notifications_roundtrip_records (s : Canine.Notif.State) (h : Notif.Inv s) :
    let s' := Notif.initGenesis (Notif.blank s) (Notif.exportGenesis s)
    (∀ k, AMap.get s'.store k = AMap.get s.store k) ∧ s'.store.Perm s.store := by
  intro s'
  have e : s' = Notif.storeOrdered s := C19_notifications_roundtrip s h
  rw [e]
  exact ⟨fun k => (AMap.get_eq_of_perm (Notif.storeOrdered_perm s).symm h.1 k).symm, Notif.storeOrdered_perm s⟩

theorem C19_notifications_export_idempotent (s : Canine.Notif.State) (h : Notif.Inv s) (hr : Notif.RawInv s) :
    Notif.exportGenesis (Notif.initGenesis (Notif.blank s) (Notif.exportGenesis s)) = Notif.exportGenesis s := by
  rw [C19_notifications_roundtrip s h, Notif.export_storeOrdered s hr]

theorem C19_notifications_validate_accepts_export (s : Canine.Notif.State) (h : Notif.Inv s) (hr : Notif.RawInv s) :
    Notif.validate (Notif.exportGenesis s) = true := by
  simp only [Notif.validate, Notif.exportGenesis, Bool.and_eq_true, noDup_iff, List.map_map]
  exact ⟨Notif.nodup_kind hr _ _ fun kv hm hk => by simp [Notif.notifRaw, (Notif.keyInv_notif h.2 kv hm hk).1],
    Notif.nodup_kind hr _ _ fun kv hm hk => by
      simp [Notif.blockRaw, (Notif.keyInv_block h.2 kv hm (by simpa using hk)).1]⟩

theorem C19_notifications_queries_preserved (s : Canine.Notif.State) (h : Notif.Inv s) (hr : Notif.RawInv s)
    (q : Canine.Notif.Query.Q) :
    Canine.Notif.Query.run (Notif.initGenesis (Notif.blank s) (Notif.exportGenesis s)) q =
      Canine.Notif.Query.run s q := by
  rw [C19_notifications_roundtrip s h]
  exact Notif.run_congr s _ (Notif.entries_storeOrdered s hr) q

/-- in particular the block list survives: a blocked sender is still blocked -/
theorem C19_notifications_blocklist_preserved (s : Canine.Notif.State) (h : Notif.Inv s) (owner sender : String) :
    Canine.Notif.isBlocked (Notif.initGenesis (Notif.blank s) (Notif.exportGenesis s)) owner sender =
      Canine.Notif.isBlocked s owner sender := by
  simp only [Canine.Notif.isBlocked, AMap.contains, (C19_notifications_roundtrip_records s h).1]

def Notif.runOps (s : Canine.Notif.State) : List (Int × Canine.Notif.Op) → Canine.Notif.State
  | [] => s
  | (now, op) :: rest => Notif.runOps (Canine.Notif.stepT s now op) rest

/-- the notifications invariant holds along every history (`C18_inv_along_histories` is the same fact about `Canine.Notif.Inv`) -/
theorem C19_notifications_inv_along_histories (ops : List (Int × Canine.Notif.Op)) :
    ∀ s, Notif.Inv s → Notif.Inv (Notif.runOps s ops) :=
  run_inv (fun _ => rfl) (fun _ _ _ => rfl) (fun s x s' h hs => Notif.inv_step s s' x.1 x.2 h hs) ops

theorem C19_rns_roundtrip (s : Canine.Rns.State) (h : Rns.Inv s) :
    Rns.initGenesis (Rns.blank s) (Rns.exportGenesis s) = Rns.storeOrdered s := by
  simp only [Rns.initGenesis, Rns.blank, Rns.exportGenesis, Rns.storeOrdered]
  rw [setAll_getAll _ _ _ h.wfNames h.keyNames, setAll_getAll _ _ _ h.wfBids h.keyBids,
    setAll_getAll _ _ _ h.wfSale h.keySale,
    setAllWith_getAllWith Rns.InitRec.address Rns.InitRec.complete _ Canine.Rns.Query.rawKey s.inits h.wfInits
      (fun kv _ => ⟨rfl, rfl⟩),
    setAllWith_getAllWith Rns.PrimaryName.owner Rns.PrimaryName.name _ Canine.Rns.Query.rawKey s.primary h.wfPrimary
      (fun kv _ => ⟨rfl, rfl⟩)]

theorem C19_rns_roundtrip_records (s : Canine.Rns.State) (h : Rns.Inv s) :
    let s' := Rns.initGenesis (Rns.blank s) (Rns.exportGenesis s)
    (∀ k, AMap.get s'.names k = AMap.get s.names k) ∧ (∀ k, AMap.get s'.bids k = AMap.get s.bids k) ∧
    (∀ k, AMap.get s'.forsale k = AMap.get s.forsale k) ∧ (∀ k, AMap.get s'.inits k = AMap.get s.inits k) ∧
    (∀ k, AMap.get s'.primary k = AMap.get s.primary k) ∧
    s'.names.Perm s.names ∧ s'.bids.Perm s.bids ∧ s'.forsale.Perm s.forsale ∧ s'.inits.Perm s.inits ∧
    s'.primary.Perm s.primary ∧
    s'.bank = s.bank ∧ s'.blocked = s.blocked ∧ s'.moduleAcc = s.moduleAcc ∧ s'.polAcc = s.polAcc ∧ s'.canon = s.canon := by
  intro s'
  have e : s' = Rns.storeOrdered s := C19_rns_roundtrip s h
  rw [e]; unfold Rns.storeOrdered
  exact ⟨get_inStoreOrder _ h.wfNames, get_inStoreOrder _ h.wfBids, get_inStoreOrder _ h.wfSale,
    get_inStoreOrder _ h.wfInits, get_inStoreOrder _ h.wfPrimary, inStoreOrder_perm _ _, inStoreOrder_perm _ _,
    inStoreOrder_perm _ _, inStoreOrder_perm _ _, inStoreOrder_perm _ _, rfl, rfl, rfl, rfl, rfl⟩

theorem C19_rns_export_idempotent (s : Canine.Rns.State) (h : Rns.Inv s) :
    Rns.exportGenesis (Rns.initGenesis (Rns.blank s) (Rns.exportGenesis s)) = Rns.exportGenesis s := by
  rw [C19_rns_roundtrip s h, Rns.export_storeOrdered s h]

theorem C19_rns_validate_accepts_export (s : Canine.Rns.State) (h : Rns.Inv s) :
    Rns.validate (Rns.exportGenesis s) = true := by
  simp only [Rns.validate, Rns.exportGenesis, Bool.and_eq_true]
  exact ⟨⟨⟨⟨rfl, noDup_getAll (fun n : Canine.Rns.NameRec => Canine.Rns.nameKey n.name n.tld) Canine.Rns.Query.rawKey s.names
      h.keyNames (Rns.rawNodup h.wfNames)⟩,
    noDup_getAll (fun b : Canine.Rns.BidRec => b.index) Canine.Rns.Query.rawKey s.bids h.keyBids (Rns.rawNodup h.wfBids)⟩,
    noDup_getAll (fun l : Canine.Rns.Listing => l.name) Canine.Rns.Query.rawKey s.forsale h.keySale (Rns.rawNodup h.wfSale)⟩,
    noDup_getAllWith Rns.InitRec.address _ Canine.Rns.Query.rawKey s.inits (fun _ _ => rfl) (Rns.rawNodup h.wfInits)⟩

theorem C19_rns_queries_preserved (s : Canine.Rns.State) (h : Rns.Inv s) (q : Canine.Rns.Query.Q) :
    Canine.Rns.Query.run (Rns.initGenesis (Rns.blank s) (Rns.exportGenesis s)) q = Canine.Rns.Query.run s q := by
  rw [C19_rns_roundtrip s h, Rns.run_storeOrdered s h q]

/-- the rns invariant holds along every history of messages (`Canine.Rns.run`) from a state where it
holds — in particular from any state whose five rns stores are empty -/
theorem C19_rns_inv_along_histories (ops : List (Int × Canine.Rns.Op)) (s : Canine.Rns.State) (h : Rns.Inv s) :
    Rns.Inv (Canine.Rns.run s ops) :=
  Canine.Rns.run_inv ops (fun e _ s s' hs hstep => Rns.inv_step s s' e.1 e.2 hs hstep) h

theorem C19_rns_inv_blank (s : Canine.Rns.State) : Rns.Inv (Rns.blank s) :=
  ⟨AMap.wf_nil, AMap.wf_nil, AMap.wf_nil, AMap.wf_nil, AMap.wf_nil, Keyed.nil, Keyed.nil, Keyed.nil⟩

/-! x/jklmint — latest-only: the last record survives, older ones do not -/

/-- the concrete model meets the generic latest-only kind of Canine/Genesis/Model.lean: the imported
emission-record store is `importKind … (exportLatest …)` of the old one at the key of the last height -/
theorem C19_jklmint_is_latest_only (c : Mint.Store) (h : Mint.Inv c) :
    (Mint.initGenesis (Mint.blank c) (Mint.exportGenesis c)).minted =
      importKind (fun b : Mint.MintedBlock => Mint.mintedKey b.height)
        (exportLatest c.minted (Mint.mintedKey c.height)) ∧
    (Mint.initGenesis (Mint.blank c) (Mint.exportGenesis c)).params = c.params ∧
    (Mint.initGenesis (Mint.blank c) (Mint.exportGenesis c)).height = c.height :=
  ⟨Mint.minted_roundtrip c h, Mint.params_roundtrip c, Mint.height_roundtrip c⟩

/-- the record of the last height is readable afterwards with the same value (and absent iff it was) -/
theorem C19_jklmint_last_record_survives (c : Mint.Store) (h : Mint.Inv c) :
    AMap.get (Mint.initGenesis (Mint.blank c) (Mint.exportGenesis c)).minted (Mint.mintedKey c.height) =
      AMap.get c.minted (Mint.mintedKey c.height) := Mint.get_last c h

/-- … through the generic theorem `C19_latest_record_survives` -/
theorem C19_jklmint_last_record_survives' (c : Mint.Store) (h : Mint.Inv c) (b : Mint.MintedBlock)
    (hg : AMap.get c.minted (Mint.mintedKey c.height) = some b) :
    AMap.get (Mint.initGenesis (Mint.blank c) (Mint.exportGenesis c)).minted (Mint.mintedKey c.height) = some b := by
  rw [(C19_jklmint_is_latest_only c h).1]
  exact C19_latest_record_survives _ c.minted _ b hg (Mint.last_key h hg)

/-- every other record is gone: the emission history is not carried (recorded finding) — through
the generic theorems `C19_latest_only_loses_history` / `C19_latest_only_empty` -/
theorem C19_jklmint_history_lost (c : Mint.Store) (h : Mint.Inv c) (k : String) (hk : k ≠ Mint.mintedKey c.height) :
    AMap.get (Mint.initGenesis (Mint.blank c) (Mint.exportGenesis c)).minted k = none := by
  rw [(C19_jklmint_is_latest_only c h).1]
  cases hg : AMap.get c.minted (Mint.mintedKey c.height) with
  | none => rw [C19_latest_only_empty _ c.minted _ hg]; rfl
  | some b => exact C19_latest_only_loses_history _ c.minted _ k b hg (Mint.last_key h hg) hk

/-- so the round trip is the identity exactly on the stores that hold nothing but the last record -/
theorem C19_jklmint_roundtrip (c : Mint.Store) (h : Mint.Inv c)
    (hl : c.minted = [] ∨ ∃ b, c.minted = [(Mint.mintedKey c.height, b)]) :
    Mint.initGenesis (Mint.blank c) (Mint.exportGenesis c) = c := by
  obtain ⟨e1, e2, e3⟩ := C19_jklmint_is_latest_only c h
  have e1' : (Mint.initGenesis (Mint.blank c) (Mint.exportGenesis c)).minted = c.minted := by
    rw [e1]
    rcases hl with hl | ⟨b, hl⟩
    · simp [hl, exportLatest, importKind]
    · have hg : AMap.get c.minted (Mint.mintedKey c.height) = some b := by rw [hl]; simp [AMap.get]
      rw [C19_latest_only_roundtrip _ c.minted _ b hg (Mint.last_key h hg), hl]
  -- the three fields agree
  generalize Mint.initGenesis (Mint.blank c) (Mint.exportGenesis c) = c' at e1' e2 e3 ⊢
  obtain ⟨p, m, ht⟩ := c
  obtain ⟨p', m', ht'⟩ := c'
  cases e1'; cases e2; cases e3; rfl

theorem C19_jklmint_export_idempotent (c : Mint.Store) (h : Mint.Inv c) :
    Mint.exportGenesis (Mint.initGenesis (Mint.blank c) (Mint.exportGenesis c)) = Mint.exportGenesis c := by
  have e1 := Mint.params_roundtrip c
  have e2 := Mint.height_roundtrip c
  have e3 := Mint.get_last c h
  simp only [Mint.exportGenesis] at *
  rw [e1, e2, e3]

theorem C19_jklmint_validate_accepts_export (c : Mint.Store) (hp : Canine.Mint.validParams c.params) :
    Mint.validate (Mint.exportGenesis c) = true := by
  obtain ⟨h1, h2, h3, h4, h5, _⟩ := hp
  simp [Mint.validate, Mint.exportGenesis, h1, h2, h3, h4, h5]

/-- what the module's only reader of the records sees: the next block (`BlockMint` at height + 1)
reads the same previous emission, so it mints the same amounts to the same accounts, from the
imported store as from the original -/
theorem C19_jklmint_next_block_preserved (c : Mint.Store) (h : Mint.Inv c) (bal : Canine.Mint.State) :
    (Mint.beginBlock (Mint.initGenesis (Mint.blank c) (Mint.exportGenesis c)) bal).2 = (Mint.beginBlock c bal).2 :=
  Mint.beginBlock_roundtrip c h bal

/-- the carried record is keyed by the ABSOLUTE height it was minted at: a chain that restarts at any
other height `h'` (an export `--for-zero-height` restarts at 0: the next block, height 1, reads
"minted_at_0") does not find it — `BlockMint` then falls back to `params.TokensPerBlock`, i.e. the
emission decay restarts -/
theorem C19_jklmint_restart_at_other_height_forgets (c : Mint.Store) (h : Mint.Inv c) (h' : Int)
    (hk : Mint.mintedKey h' ≠ Mint.mintedKey c.height) :
    Mint.lastOf { Mint.initGenesis (Mint.blank c) (Mint.exportGenesis c) with height := h' } (h' + 1) = none := by
  simp only [Mint.lastOf, Int.add_sub_cancel, C19_jklmint_history_lost c h _ hk, Option.map_none]

theorem C19_jklmint_inv_next_block (c : Mint.Store) (h : Mint.Inv c) (h0 : 0 ≤ c.height) (bal : Canine.Mint.State) :
    Mint.Inv (Mint.beginBlock c bal).1 := by
  simp only [Mint.beginBlock]
  split
  · refine ⟨AMap.wf_set _ _ h.wf, h.keyed.set _ _ rfl, ?_⟩
    intro kv hm
    rcases AMap.mem_set hm with hm' | e
    · exact h.pos kv hm'
    · rw [e]; show 0 < c.height + 1; omega
  · exact ⟨h.wf, h.keyed, h.pos⟩

theorem C19_storage_roundtrip (s : Canine.Storage.State) (h : Storage.Inv s) :
    Storage.initGenesis (Storage.blank s) (Storage.exportGenesis s) = Storage.storeOrdered s := by
  have e1 := setAll_getAll Canine.Storage.File.key Canine.Storage.Query.fileKeyStr s.files h.idx.wfFiles (Storage.keyFiles h)
  have e2 := setAll_getAll Storage.proofKeyOf Canine.Storage.Query.proofKeyStr s.proofs h.idx.wfProofs h.keyProofs
  have e3 := setAll_getAll (fun p : Canine.Storage.Provider => p.address) Canine.Storage.Query.addrKeyStr s.providers
    h.wfProviders h.keyProviders
  have e4 := setAll_getAll (fun p : Canine.Storage.PayInfo => p.address) Canine.Storage.Query.addrKeyStr s.payinfo
    h.wfPayinfo h.keyPayinfo
  have e5 := setAllWith_getAllWith Storage.CollateralRec.address Storage.CollateralRec.amount
    (fun kv : String × Int => ({ address := kv.1, amount := kv.2 } : Storage.CollateralRec))
    Canine.Storage.Query.addrKeyStr s.collateral h.wfCollateral (fun kv _ => ⟨rfl, rfl⟩)
  have e6 := setAll_getAll Storage.formKeyOf Canine.Storage.Query.formKeyStr s.attests h.wfAttests h.keyAttests
  have e7 := setAll_getAll Storage.formKeyOf Canine.Storage.Query.formKeyStr s.reports h.wfReports h.keyReports
  have e8 := setAll_getAll (fun g : Canine.Storage.Gauge => g.id) Canine.Storage.Query.gaugeKeyStr s.gauges
    h.wfGauges h.keyGauges
  simp only [Storage.initGenesis, Storage.blank, Storage.exportGenesis, Storage.storeOrdered, Storage.foldl_setFile,
    e1, e2, e3, e4, e5, e6, e7, e8]

theorem C19_storage_roundtrip_records (s : Canine.Storage.State) (h : Storage.Inv s) :
    let s' := Storage.initGenesis (Storage.blank s) (Storage.exportGenesis s)
    (∀ k, AMap.get s'.files k = AMap.get s.files k) ∧ (∀ k, AMap.get s'.files2 k = AMap.get s.files2 k) ∧
    (∀ k, AMap.get s'.proofs k = AMap.get s.proofs k) ∧ (∀ k, AMap.get s'.providers k = AMap.get s.providers k) ∧
    (∀ k, AMap.get s'.payinfo k = AMap.get s.payinfo k) ∧ (∀ k, AMap.get s'.collateral k = AMap.get s.collateral k) ∧
    (∀ k, AMap.get s'.gauges k = AMap.get s.gauges k) ∧ (∀ k, AMap.get s'.attests k = AMap.get s.attests k) ∧
    (∀ k, AMap.get s'.reports k = AMap.get s.reports k) ∧
    s'.files.Perm s.files ∧ s'.files2.Perm s.files2 ∧ s'.proofs.Perm s.proofs ∧ s'.providers.Perm s.providers ∧
    s'.payinfo.Perm s.payinfo ∧ s'.collateral.Perm s.collateral ∧ s'.gauges.Perm s.gauges ∧
    s'.attests.Perm s.attests ∧ s'.reports.Perm s.reports ∧
    s'.params = s.params ∧ s'.bank = s.bank ∧ s'.moduleAcc = s.moduleAcc ∧ s'.collateralAcc = s.collateralAcc ∧
    s'.polAcc = s.polAcc ∧ s'.feeAcc = s.feeAcc ∧ s'.blocked = s.blocked ∧ s'.canon = s.canon := by
  intro s'
  have e : s' = Storage.storeOrdered s := C19_storage_roundtrip s h
  rw [e]; unfold Storage.storeOrdered
  refine ⟨get_inStoreOrder _ h.idx.wfFiles, ?_, get_inStoreOrder _ h.idx.wfProofs, get_inStoreOrder _ h.wfProviders,
    get_inStoreOrder _ h.wfPayinfo, get_inStoreOrder _ h.wfCollateral, get_inStoreOrder _ h.wfGauges,
    get_inStoreOrder _ h.wfAttests, get_inStoreOrder _ h.wfReports, inStoreOrder_perm _ _, Storage.files2_perm s h,
    inStoreOrder_perm _ _, inStoreOrder_perm _ _, inStoreOrder_perm _ _, inStoreOrder_perm _ _, inStoreOrder_perm _ _,
    inStoreOrder_perm _ _, inStoreOrder_perm _ _, rfl, rfl, rfl, rfl, rfl, rfl, rfl, rfl⟩
  intro k
  rw [get_inStoreOrder _ h.idx.wfFiles, h.idx.same]

theorem C19_storage_export_idempotent (s : Canine.Storage.State) (h : Storage.Inv s) (hr : Storage.RawInv s) :
    Storage.exportGenesis (Storage.initGenesis (Storage.blank s) (Storage.exportGenesis s)) = Storage.exportGenesis s := by
  rw [C19_storage_roundtrip s h, Storage.export_storeOrdered s h hr]

theorem C19_storage_validate_accepts_export (s : Canine.Storage.State) (h : Storage.Inv s) (hr : Storage.RawInv s)
    (hp : 0 ≤ s.params.polRatio ∧ 0 ≤ s.params.referralCommission) :
    Storage.validate (Storage.exportGenesis s) = true := by
  have hv : Storage.paramsValid s.params = true := by simp [Storage.paramsValid, hp.1, hp.2]
  simp only [Storage.validate, Storage.exportGenesis, Bool.and_eq_true]
  exact ⟨⟨⟨⟨noDup_getAll Canine.Storage.File.key Canine.Storage.Query.fileKeyStr s.files (Storage.keyFiles h) hr.files,
    noDup_getAll Storage.proofKeyOf Canine.Storage.Query.proofKeyStr s.proofs h.keyProofs hr.proofs⟩,
    noDup_getAll (fun p : Canine.Storage.Provider => p.address) Canine.Storage.Query.addrKeyStr s.providers h.keyProviders
      (Storage.addr_nodup h.wfProviders)⟩,
    noDup_getAll (fun p : Canine.Storage.PayInfo => p.address) Canine.Storage.Query.addrKeyStr s.payinfo h.keyPayinfo
      (Storage.addr_nodup h.wfPayinfo)⟩, hv⟩

theorem C19_storage_queries_preserved (s : Canine.Storage.State) (h : Storage.Inv s) (hr : Storage.RawInv s)
    (now : Int) (q : Canine.Storage.Query.Q) :
    Canine.Storage.Query.run (Storage.initGenesis (Storage.blank s) (Storage.exportGenesis s)) now q =
      Canine.Storage.Query.run s now q := by
  rw [C19_storage_roundtrip s h, Storage.run_storeOrdered s h hr now q]

/-- the C17 index invariant itself survives the round trip (both indexes rebuilt by the same `SetFile`) -/
theorem C19_storage_index_invariant_preserved (s : Canine.Storage.State) (h : Storage.Inv s) :
    Canine.Storage.IndexInv (Storage.initGenesis (Storage.blank s) (Storage.exportGenesis s)) := by
  obtain ⟨g1, g2, g3, _, _, _, _, _, _, p1, p2, p3, _⟩ := C19_storage_roundtrip_records s h
  refine ⟨AMap.wf_of_perm p1.symm h.idx.wfFiles, AMap.wf_of_perm p2.symm h.idx.wfFiles2, AMap.wf_of_perm p3.symm h.idx.wfProofs, ?_, ?_⟩
  · intro k; rw [g1, g2]; exact h.idx.same k
  · intro k f hf
    rw [g1] at hf
    exact (h.idx.ok k f hf).congr (fun pk _ _ => g3 pk)


/-! ### the storage invariants hold on every reachable state

Histories: `SI.HEv` (Proofs/GenesisStorageInv.lean) = the events of `C17_along_histories`
(`Canine.Storage.Ev`: a delivered message — a failed one commits nothing — or a block boundary, applied by
`Canine.Storage.applyEv`) plus `setParams p` (the state with only `params` replaced); `SI.runH` folds
`SI.applyH` over the list. -/

/-- No side condition on the op or its oracle inputs:
each handler builds the record and its key from the same values (`newGauge'` stores the gauge with
`id := gid` under `gid`; a form is stored under `(prover, f.key)` for the file `f` found under
`(merkle, owner, start)`, which is its own key by the index invariant; plan records are written under
their own `address` field) -/
theorem C19_storage_inv_preserved_by_messages (s s' : Canine.Storage.State) (h now : Int) (op : Canine.Storage.Op)
    (hstep : Canine.Storage.step s h now op = some s') (hinv : Storage.Inv s) : Storage.Inv s' :=
  SI.inv_step s s' h now op hstep hinv

theorem C19_storage_inv_preserved_by_stepT (s : Canine.Storage.State) (h now : Int) (op : Canine.Storage.Op)
    (hinv : Storage.Inv s) : Storage.Inv (Canine.Storage.stepT s h now op) :=
  SI.inv_stepT s h now op hinv

theorem C19_storage_inv_preserved_by_reward_block (s s' : Canine.Storage.State) (h now : Int)
    (hblock : Canine.Storage.beginBlock s h now = .ok s') (hinv : Storage.Inv s) : Storage.Inv s' :=
  SI.inv_beginBlock hblock hinv

theorem C19_storage_inv_preserved_by_param_change (s : Canine.Storage.State) (p : Canine.Storage.Params)
    (hinv : Storage.Inv s) : Storage.Inv { s with params := p } :=
  SI.inv_params p hinv

/-- whatever bank, parameters, account names, blocked list -/
theorem C19_storage_inv_empty (s : Canine.Storage.State) (h : SI.EmptyStores s) : Storage.Inv s := SI.inv_empty h

theorem C19_storage_inv_blank (s : Canine.Storage.State) : Storage.Inv (Storage.blank s) :=
  SI.inv_empty ⟨rfl, rfl, rfl, rfl, rfl, rfl, rfl, rfl, rfl⟩

/-- `Storage.Inv` holds after every history of messages (delivered or failed), blocks and parameter
changes from any state satisfying it -/
theorem C19_storage_inv_along_histories (evs : List SI.HEv) (s : Canine.Storage.State) (h : Storage.Inv s) :
    Storage.Inv (SI.runH s evs) := SI.inv_runH evs s h

theorem C19_storage_inv_along_histories_from_empty (evs : List SI.HEv) (s0 : Canine.Storage.State)
    (h0 : SI.EmptyStores s0) : Storage.Inv (SI.runH s0 evs) := SI.inv_runH evs s0 (SI.inv_empty h0)

/-- when the string components of the stored keys contain no '/', distinct
decoded keys have distinct raw keys -/
theorem C19_storage_rawInv_of_slashFree (s : Canine.Storage.State) (hsf : SI.SlashFree s) (h : Storage.Inv s) :
    Storage.RawInv s := SI.rawInv_of_slashFree hsf h

/-- every message whose new key strings are slash-free preserves `SlashFree` (`SI.OpSlashFree`: creator
and merkle of `MsgPostFile`, creator of `MsgPostProof`; no other message writes a key that is not a
key already) -/
theorem C19_storage_slashFree_preserved_by_messages (s s' : Canine.Storage.State) (h now : Int) (op : Canine.Storage.Op)
    (hstep : Canine.Storage.step s h now op = some s') (hop : SI.OpSlashFree op) (hinv : Storage.Inv s)
    (hsf : SI.SlashFree s) : SI.SlashFree s' :=
  SI.slashFree_step s s' h now op hstep hop hinv.idx hsf

theorem C19_storage_slashFree_preserved_by_reward_block (s s' : Canine.Storage.State) (h now : Int)
    (hblock : Canine.Storage.beginBlock s h now = .ok s') (hinv : Storage.Inv s) (hsf : SI.SlashFree s) : SI.SlashFree s' :=
  SI.slashFree_beginBlock hblock hinv.idx hsf

/-- along every history with slash-free ops, from any state satisfying both -/
theorem C19_storage_invs_along_histories (evs : List SI.HEv) (s : Canine.Storage.State)
    (hops : ∀ e ∈ evs, SI.HEvSlashFree e) (h : Storage.Inv s) (hsf : SI.SlashFree s) :
    Storage.Inv (SI.runH s evs) ∧ SI.SlashFree (SI.runH s evs) ∧ Storage.RawInv (SI.runH s evs) := by
  obtain ⟨a, b⟩ := SI.both_runH evs s hops ⟨h, hsf⟩
  exact ⟨a, b, SI.rawInv_of_slashFree b a⟩

/-- both hypotheses of the C19 storage theorems hold on every reachable state: after every history
of messages, blocks and parameter changes from the empty stores whose ops are slash-free -/
theorem C19_storage_reachable (evs : List SI.HEv) (s0 : Canine.Storage.State) (h0 : SI.EmptyStores s0)
    (hops : ∀ e ∈ evs, SI.HEvSlashFree e) :
    Storage.Inv (SI.runH s0 evs) ∧ Storage.RawInv (SI.runH s0 evs) := by
  obtain ⟨a, _, c⟩ := C19_storage_invs_along_histories evs s0 hops (SI.inv_empty h0) (SI.slashFree_empty h0)
  exact ⟨a, c⟩

theorem C19_storage_roundtrip_reachable (evs : List SI.HEv) (s0 : Canine.Storage.State) (h0 : SI.EmptyStores s0) :
    Storage.initGenesis (Storage.blank (SI.runH s0 evs)) (Storage.exportGenesis (SI.runH s0 evs)) =
      Storage.storeOrdered (SI.runH s0 evs) :=
  C19_storage_roundtrip _ (C19_storage_inv_along_histories_from_empty evs s0 h0)

theorem C19_storage_export_idempotent_reachable (evs : List SI.HEv) (s0 : Canine.Storage.State) (h0 : SI.EmptyStores s0)
    (hops : ∀ e ∈ evs, SI.HEvSlashFree e) :
    Storage.exportGenesis (Storage.initGenesis (Storage.blank (SI.runH s0 evs)) (Storage.exportGenesis (SI.runH s0 evs))) =
      Storage.exportGenesis (SI.runH s0 evs) :=
  C19_storage_export_idempotent _ (C19_storage_reachable evs s0 h0 hops).1 (C19_storage_reachable evs s0 h0 hops).2

theorem C19_storage_validate_accepts_export_reachable (evs : List SI.HEv) (s0 : Canine.Storage.State)
    (h0 : SI.EmptyStores s0) (hops : ∀ e ∈ evs, SI.HEvSlashFree e)
    (hp : 0 ≤ (SI.runH s0 evs).params.polRatio ∧ 0 ≤ (SI.runH s0 evs).params.referralCommission) :
    Storage.validate (Storage.exportGenesis (SI.runH s0 evs)) = true :=
  C19_storage_validate_accepts_export _ (C19_storage_reachable evs s0 h0 hops).1 (C19_storage_reachable evs s0 h0 hops).2 hp

theorem C19_storage_queries_preserved_reachable (evs : List SI.HEv) (s0 : Canine.Storage.State) (h0 : SI.EmptyStores s0)
    (hops : ∀ e ∈ evs, SI.HEvSlashFree e) (now : Int) (q : Canine.Storage.Query.Q) :
    Canine.Storage.Query.run
        (Storage.initGenesis (Storage.blank (SI.runH s0 evs)) (Storage.exportGenesis (SI.runH s0 evs))) now q =
      Canine.Storage.Query.run (SI.runH s0 evs) now q :=
  C19_storage_queries_preserved _ (C19_storage_reachable evs s0 h0 hops).1 (C19_storage_reachable evs s0 h0 hops).2 now q

theorem C19_storage_index_invariant_preserved_reachable (evs : List SI.HEv) (s0 : Canine.Storage.State)
    (h0 : SI.EmptyStores s0) :
    Canine.Storage.IndexInv
      (Storage.initGenesis (Storage.blank (SI.runH s0 evs)) (Storage.exportGenesis (SI.runH s0 evs))) :=
  C19_storage_index_invariant_preserved _ (C19_storage_inv_along_histories_from_empty evs s0 h0)

/-! ## Non-vacuity: the hypotheses hold on concrete states with two or more records per kind -/
namespace C19Ex

def oracleSt : Canine.Oracle.State :=
  { feeds := [("jklprice", { owner := "jkl1a", data := "{\"price\":\"0.3\"}", lastUpdate := 5, name := "jklprice" }),
              ("atomprice", { owner := "jkl1b", data := "", lastUpdate := 7, name := "atomprice" })],
    bank := [], moduleAcc := "oracle", deposit := some "jkl1deposit", blocked := [] }

example : Oracle.Inv oracleSt := ⟨by unfold AMap.WF; decide +kernel, by unfold Keyed; decide +kernel⟩

def filetreeSt : Canine.Filetree.State :=
  { files := [(("ff01", "0a"), { address := "ff01", owner := "0a", contents := "c1", viewers := .map [("v1", "k1")],
                                  editors := .null, tracking := "t1" }),
              (("aa02", "0b"), { address := "aa02", owner := "0b", contents := "c2", viewers := .raw "x",
                                  editors := .map [], tracking := "t2" })],
    pubkeys := [("jkl1z", "pkz"), ("jkl1a", "pka")] }

example : Filetree.Inv filetreeSt := ⟨by unfold AMap.WF; decide +kernel, by unfold Keyed; decide +kernel, by unfold AMap.WF; decide +kernel⟩
example : Filetree.RawInv filetreeSt := by unfold Filetree.RawInv RawNodup; decide +kernel

def notifSt : Canine.Notif.State :=
  { store := [(Canine.Notif.notifKey "jkl1bob" "jkl1alice" 20,
                .notif { to := "jkl1bob", sender := "jkl1alice", time := 20, contents := "{}", priv := "" }),
              (Canine.Notif.blockKey "jkl1bob" "jkl1carol", .block "jkl1bob" "jkl1carol"),
              (Canine.Notif.notifKey "jkl1bob" "jkl1alice" 10,
                .notif { to := "jkl1bob", sender := "jkl1alice", time := 10, contents := "{\"a\":1}", priv := "p" }),
              (Canine.Notif.blockKey "jkl1alice" "jkl1dave", .block "jkl1alice" "jkl1dave")] }

example : Notif.Inv notifSt := by
  refine ⟨by unfold AMap.WF; decide +kernel, ?_⟩
  intro kv hm
  simp only [notifSt, List.mem_cons, List.not_mem_nil, or_false] at hm
  rcases hm with rfl | rfl | rfl | rfl
  · exact Or.inl ⟨_, rfl, rfl⟩
  · exact Or.inr ⟨_, _, rfl, rfl⟩
  · exact Or.inl ⟨_, rfl, rfl⟩
  · exact Or.inr ⟨_, _, rfl, rfl⟩

example : Notif.RawInv notifSt := by unfold Notif.RawInv RawNodup; decide +kernel

def rnsSt : Canine.Rns.State :=
  { names := [("zed.jkl", { name := "zed", tld := "jkl", expires := 900, value := "jkl1a", data := "{}", locked := 0,
                             subs := [{ name := "www", value := "jkl1b", data := "", tld := "jkl", expires := 900 }] }),
              ("alice.ibc", { name := "alice", tld := "ibc", expires := 800, value := "jkl1b", data := "{}", locked := 5, subs := [] })],
    forsale := [("zed.jkl", { name := "zed.jkl", owner := "jkl1a", priceRaw := "5ujkl", price := some ("ujkl", 5) }),
                ("alice.ibc", { name := "alice.ibc", owner := "jkl1b", priceRaw := "x", price := none })],
    bids := [("jkl1bzed.jkl", { index := "jkl1bzed.jkl", name := "zed.jkl", bidder := "jkl1b", priceRaw := "3ujkl", price := some [("ujkl", 3)] }),
             ("jkl1aalice.ibc", { index := "jkl1aalice.ibc", name := "alice.ibc", bidder := "jkl1a", priceRaw := "4ujkl", price := some [("ujkl", 4)] })],
    inits := [("jkl1b", true), ("jkl1a", true)],
    primary := [("jkl1b", "alice.ibc"), ("jkl1a", "zed.jkl")],
    bank := [], blocked := [], moduleAcc := "rns", polAcc := "pol", canon := [("jkl1a", "jkl1a"), ("JKL1A", "jkl1a")] }

example : Rns.Inv rnsSt :=
  ⟨by unfold AMap.WF; decide, by unfold AMap.WF; decide, by unfold AMap.WF; decide, by unfold AMap.WF; decide,
   by unfold AMap.WF; decide, by unfold Keyed; decide, by unfold Keyed; decide, by unfold Keyed; decide⟩

def mintSt : Mint.Store :=
  { params := { tokensPerBlock := 4200000, mintDecrease := 6, stakerRatio := 80, devGrantsRatio := 8, providerRatio := 12 },
    minted := [(Mint.mintedKey 9, { height := 9, minted := 4199999, denom := "ujkl" }),
               (Mint.mintedKey 10, { height := 10, minted := 4199998, denom := "ujkl" })],
    height := 10 }

theorem mintSt_inv : Mint.Inv mintSt := ⟨by unfold AMap.WF; decide +kernel, by unfold Keyed; decide +kernel, by decide +kernel⟩
example : Canine.Mint.validParams mintSt.params := by unfold Canine.Mint.validParams; decide +kernel

/-- the finding on a concrete store: the record of height 10 survives, the record of height 9 is gone -/
example : AMap.get (Mint.initGenesis (Mint.blank mintSt) (Mint.exportGenesis mintSt)).minted (Mint.mintedKey 10)
    = some { height := 10, minted := 4199998, denom := "ujkl" } :=
  C19_jklmint_last_record_survives' mintSt mintSt_inv _ (by decide +kernel)
example : AMap.get mintSt.minted (Mint.mintedKey 9) = some { height := 9, minted := 4199999, denom := "ujkl" } := by decide +kernel
example : AMap.get (Mint.initGenesis (Mint.blank mintSt) (Mint.exportGenesis mintSt)).minted (Mint.mintedKey 9) = none :=
  C19_jklmint_history_lost mintSt mintSt_inv _ (by decide +kernel)
/-- restarted at height 0 (`--for-zero-height`), block 1 finds no previous emission -/
example : Mint.lastOf { Mint.initGenesis (Mint.blank mintSt) (Mint.exportGenesis mintSt) with height := 0 } 1 = none :=
  C19_jklmint_restart_at_other_height_forgets mintSt mintSt_inv 0 (by decide +kernel)
/-- so on this store the round trip is NOT the identity -/
example : Mint.initGenesis (Mint.blank mintSt) (Mint.exportGenesis mintSt) ≠ mintSt := by
  intro e
  have h := C19_jklmint_history_lost mintSt mintSt_inv (Mint.mintedKey 9) (by decide +kernel)
  rw [e] at h
  exact absurd h (by decide +kernel)

open Canine.Storage in
def k1 : FKey := ("bb", "jkl1owner", 7)
open Canine.Storage in
def k2 : FKey := ("aa", "jkl1other", 3)
open Canine.Storage in
def file1 : File :=
  { merkle := "bb", owner := "jkl1owner", start := 7, expires := 0, fileSize := 100, proofInterval := 50,
    proofType := 0, proofs := [("jkl1p1", k1), ("jkl1p2", k1)], maxProofs := 3, note := "{}" }
open Canine.Storage in
def file2 : File :=
  { merkle := "aa", owner := "jkl1other", start := 3, expires := 900, fileSize := 5, proofInterval := 50,
    proofType := 0, proofs := [("jkl1p1", k2)], maxProofs := 3, note := "" }
open Canine.Storage in
def rec' (prover : String) (k : FKey) : Proof :=
  { prover := prover, merkle := k.1, owner := k.2.1, start := k.2.2, lastProven := 8, chunkToProve := 0 }
open Canine.Storage in
def form (prover : String) (k : FKey) : Form :=
  { prover := prover, merkle := k.1, owner := k.2.1, start := k.2.2, attestations := [("jkl1p2", false), ("jkl1p3", true)] }
open Canine.Storage in
def prov (a : String) : Provider :=
  { address := a, ip := "https://" ++ a, totalspace := "1000", burned := some 0, creator := a, keybase := "", claimers := [] }

open Canine.Storage in
def storageSt : State :=
  { files := [(k1, file1), (k2, file2)], files2 := [(k1, file1), (k2, file2)],
    proofs := [(("jkl1p1", k1), rec' "jkl1p1" k1), (("jkl1p2", k1), rec' "jkl1p2" k1), (("jkl1p1", k2), rec' "jkl1p1" k2)],
    providers := [("jkl1p2", prov "jkl1p2"), ("jkl1p1", prov "jkl1p1"), ("jkl1p3", prov "jkl1p3")],
    payinfo := [("jkl1owner", { startT := 0, endT := 100, spaceAvailable := 1000, spaceUsed := 300, address := "jkl1owner" }),
                ("jkl1other", { startT := 0, endT := 50, spaceAvailable := 10, spaceUsed := 0, address := "jkl1other" })],
    collateral := [("jkl1p2", 1000), ("jkl1p1", 1000)],
    gauges := [("ff", { id := "ff", startT := 0, endT := 10, coins := [("ujkl", 5)], account := "g-ff" }),
               ("0a", { id := "0a", startT := 0, endT := 20, coins := [("ujkl", 7)], account := "g-0a" })],
    attests := [(("jkl1p1", k1), form "jkl1p1" k1), (("jkl1p1", k2), form "jkl1p1" k2)],
    reports := [(("jkl1p2", k1), form "jkl1p2" k1), (("jkl1p1", k2), form "jkl1p1" k2)],
    bank := [],
    params := { proofWindow := 50, checkWindow := 100, chunkSize := 1024, pricePerTbPerMonth := 8, collateralPrice := 1000, attestFormSize := 3, attestMinToPass := 2, referralCommission := 25, polRatio := 40 },
    moduleAcc := "storage", collateralAcc := "collateral", polAcc := "pol", feeAcc := "fee", blocked := [] }

open Canine.Storage in
instance (P : AMap PKey Proof) (k : FKey) (f : File) : Decidable (FileOK P k f) := by
  unfold FileOK; infer_instance

open Canine.Storage in
theorem storageSt_index : IndexInv storageSt := by
  -- the clause about the stored files is a check of each binding of the list
  have hok : ∀ kv ∈ storageSt.files, FileOK storageSt.proofs kv.1 kv.2 := by decide +kernel
  exact ⟨by unfold AMap.WF; decide +kernel, by unfold AMap.WF; decide +kernel, by unfold AMap.WF; decide +kernel,
    fun _ => rfl, fun k f hf => hok (k, f) (AMap.mem_of_get hf)⟩

example : Storage.Inv storageSt :=
  ⟨storageSt_index, by unfold AMap.WF; decide, by unfold AMap.WF; decide, by unfold AMap.WF; decide,
   by unfold AMap.WF; decide, by unfold AMap.WF; decide, by unfold AMap.WF; decide,
   by unfold Keyed; decide, by unfold Keyed; decide, by unfold Keyed; decide, by unfold Keyed; decide,
   by unfold Keyed; decide, by unfold Keyed; decide⟩

example : Storage.RawInv storageSt :=
  ⟨by unfold RawNodup; decide +kernel, by unfold RawNodup; decide +kernel, by unfold RawNodup; decide +kernel, by unfold RawNodup; decide +kernel,
   by unfold RawNodup; decide +kernel⟩

example : 0 ≤ storageSt.params.polRatio ∧ 0 ≤ storageSt.params.referralCommission := by
  simp only [storageSt]; decide +kernel

/-! ### a concrete history from the empty stores: a provider, a plan with its gauge, a file with a
prover, an attestation form, a parameter change, block boundaries -/

open Canine.Storage in
def hParams : Params :=
  { proofWindow := 50, checkWindow := 100, chunkSize := 1024, pricePerTbPerMonth := 8, collateralPrice := 1000,
    attestFormSize := 3, attestMinToPass := 2, referralCommission := 25, polRatio := 40 }

open Canine.Storage in
def h0 : State :=
  { files := [], files2 := [], proofs := [], providers := [], payinfo := [], collateral := [], gauges := [],
    attests := [], reports := [],
    bank := [(("jkl1owner", "ujkl"), 1000000000000), (("jkl1p1", "ujkl"), 5000)],
    params := hParams, moduleAcc := "storage", collateralAcc := "collateral", polAcc := "pol", feeAcc := "fee",
    blocked := [] }

/-- p1 registers; the owner buys a 3 GB / 30 day plan (a gauge is created and funded), posts a file on
the plan; p1 proves it and asks for an attestation form; the parameters change; a block boundary that is
not a reward block -/
def hist : List SI.HEv :=
  [ .ev (.msg 5 1000 (.initProvider "jkl1p1" "https://p1.example" "" 1000000 true)),
    .ev (.msg 6 2000 (.buyStorage "jkl1owner" "jkl1owner" 30 3000000000 "ujkl" none 200000000000000000 "6761" "jkl1gauge1")),
    .ev (.msg 7 3000 (.postFile "jkl1owner" "aa" 100 3 0 0 "{}" true 200000000000000000 "" "")),
    .ev (.msg 8 4000 (.postProof "jkl1p1" "aa" "jkl1owner" 7 0 true 5)),
    .ev (.msg 9 5000 (.requestAttest "jkl1p1" "aa" "jkl1owner" 7 3 ["jkl1p2", "jkl1p3", "jkl1p4"])),
    .setParams { hParams with attestMinToPass := 3 },
    .ev (.block 99 5500) ]

theorem h0_empty : SI.EmptyStores h0 := ⟨rfl, rfl, rfl, rfl, rfl, rfl, rfl, rfl, rfl⟩
theorem hist_slashFree : ∀ e ∈ hist, SI.HEvSlashFree e := by decide +kernel
theorem hist_block_slashFree : ∀ e ∈ hist ++ [.ev (.block 100 2592000000000000)], SI.HEvSlashFree e := by
  decide +kernel

example : SI.EmptyStores h0 := h0_empty
example : ∀ e ∈ hist, SI.HEvSlashFree e := hist_slashFree
example : ∀ e ∈ hist ++ [.ev (.block 100 2592000000000000)], SI.HEvSlashFree e := hist_block_slashFree

/-- every message of the history succeeds; the final state holds a provider (with collateral), a plan, a
gauge, a file with a prover and its proof record, and a form -/
example :
    let s := SI.runH h0 hist
    s.providers.map (·.1) = ["jkl1p1"] ∧ s.collateral = [("jkl1p1", 1000)] ∧ s.payinfo.map (·.1) = ["jkl1owner"] ∧
    s.gauges.map (·.1) = ["6761"] ∧
    s.files.map (fun kv => (kv.1, kv.2.proofs)) = [(("aa", "jkl1owner", 7), [("jkl1p1", "aa", "jkl1owner", 7)])] ∧
    s.files2 = s.files ∧ s.proofs.map (·.1) = [("jkl1p1", "aa", "jkl1owner", 7)] ∧
    s.attests.map (·.1) = [("jkl1p1", "aa", "jkl1owner", 7)] ∧ s.params.attestMinToPass = 3 := by
  decide +kernel

/-- so `Inv` and `RawInv` hold there, and the C19 storage theorems apply -/
example : Storage.Inv (SI.runH h0 hist) ∧ Storage.RawInv (SI.runH h0 hist) :=
  C19_storage_reachable hist h0 h0_empty hist_slashFree

example : Storage.validate (Storage.exportGenesis (SI.runH h0 hist)) = true :=
  C19_storage_validate_accepts_export_reachable hist h0 h0_empty hist_slashFree (by decide +kernel)

/-- with a real reward block at the end (height 100 = the check window; `manageRewards` sorts the provers
with `mergeSort`, which `decide` cannot unfold: evaluated by the kernel, no axiom involved): the block
runs 30 days after the purchase, releases the gauge's tokens, pays them to the prover and keeps the prover -/
example :
    let s := SI.runH h0 (hist ++ [.ev (.block 100 2592000000000000)])
    Canine.Bank.bal (SI.runH h0 hist).bank "jkl1gauge1" "ujkl" = 13999 ∧ Canine.Bank.bal (SI.runH h0 hist).bank "jkl1p1" "ujkl" = 4000 ∧
    Canine.Bank.bal s.bank "jkl1gauge1" "ujkl" = 1 ∧ Canine.Bank.bal s.bank "jkl1p1" "ujkl" = 17998 ∧
    s.files.map (fun kv => kv.2.proofs.map (·.1)) = [["jkl1p1"]] ∧ s.gauges.map (·.1) = ["6761"] := by
  decide +kernel

example : Storage.Inv (SI.runH h0 (hist ++ [.ev (.block 100 2592000000000000)])) ∧ Storage.RawInv (SI.runH h0 (hist ++ [.ev (.block 100 2592000000000000)])) :=
  C19_storage_reachable _ h0 h0_empty hist_block_slashFree

/-- `SlashFree` is not vacuous: a file whose owner text contains the separator breaks it — and `RawInv`
with it: ("a/b", "c") and ("a", "b/c") are two decoded keys with the one raw key "a/b/c/7/" -/
example : ¬ SI.SlashFree { h0 with files := [(("aa", "x/y", 7), file1)] } := by
  intro h
  exact absurd (h.files ("aa", "x/y", 7) file1 (by decide +kernel)).2 (by decide +kernel)

example : ¬ Storage.RawInv { h0 with files := [(("a/b", "c", 7), file1), (("a", "b/c", 7), file1)] } := by
  intro h
  exact absurd h.files (by unfold RawNodup; decide +kernel)

end C19Ex

end Canine.Genesis
