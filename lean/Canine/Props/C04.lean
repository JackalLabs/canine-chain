/-
C04 — Storage payments are charged exactly and split without misdirecting tokens.

A plan purchase (`buyStorage`) and a one-time file payment (`postFile` with `expires > 0`) debit the
payer exactly the computed price, fund the new provider gauge with exactly the amount the gauge
records, pay the protocol-liquidity account its governance-set percentage (less the 10 or 5 points
of the referral discount on a referred purchase) and the referrer (or, without a distinct referrer,
the stakers' fee pool) its percentage, each rounded down, leave the remainder in the module account
and touch no other balance (`C04_buy_accounting`); the remainder is non-negative when the percentages
are valid — non-negative, at most 100 together, the liquidity percentage at least the discount taken
out of it (`C04_credits_le_debit`) — and a purchase whose liquidity share would be negative fails;
a failed message changes nothing.
-/
import Canine.Proofs.Payments
import Canine.Generated.PureFns
import Canine.Generated.KeyFacts
namespace Canine.Storage
open Bank

/-- an error return leaves the whole state (in particular every balance) as it was -/
theorem C04_failed_message_changes_nothing (s : State) (h now : Int) (op : Op)
    (hf : step s h now op = none) : stepT s h now op = s := by
  simp [stepT, hf]

/-- the two paying messages, spelled out -/
theorem C04_failed_purchase_debits_nothing (s : State) (h now : Int) :
    (∀ c fa dd b dn ref jp gid gacc, buyStorage s now c fa dd b dn ref ⟨jp⟩ gid gacc = none →
      stepT s h now (.buyStorage c fa dd b dn ref jp gid gacc) = s) ∧
    (∀ c m fs mp ex pt note nv jp gid gacc, postFile s h now c m fs mp ex pt note nv ⟨jp⟩ gid gacc = none →
      stepT s h now (.postFile c m fs mp ex pt note nv jp gid gacc) = s) :=
  ⟨fun _ _ _ _ _ _ _ _ _ hf => C04_failed_message_changes_nothing s h now _ hf,
   fun _ _ _ _ _ _ _ _ _ _ _ hf => C04_failed_message_changes_nothing s h now _ hf⟩

/-- the price a purchase charges: the storage (or upgrade) cost of `buyBase`, times 0.90 / 0.95
truncated when a distinct referrer is named (`chargedOf`); 0 when the price stage fails -/
def buyCharge (s : State) (now : Int) (creator fa : String) (days bytes : Int) (denom : String)
    (referral : Option String) (jp : Dec) : Int :=
  chargedOf creator referral days (((buyBase s now fa days bytes denom jp).map (·.1)).getD 0)

theorem buyCharge_of_base {s : State} {now : Int} {creator fa : String} {days bytes : Int} {denom : String}
    {referral : Option String} {jp : Dec} {tp0 su : Int}
    (hb : buyBase s now fa days bytes denom jp = some (tp0, su)) :
    buyCharge s now creator fa days bytes denom referral jp = chargedOf creator referral days tp0 := by
  simp [buyCharge, hb]

/-- the price of a first purchase (no plan yet) is `GetStorageCost` of the size and duration -/
theorem C04_price_of_first_purchase (s : State) (now : Int) (creator fa : String) (days bytes : Int) (denom : String)
    (referral : Option String) (jp : Dec) (tp0 su : Int) (hnew : AMap.get s.payinfo fa = none)
    (hb : buyBase s now fa days bytes denom jp = some (tp0, su)) :
    storageCost s.params.pricePerTbPerMonth (Int.tdiv bytes gb)
      (Dec.trunc ((Dec.quo? (Dec.ofInt (Int.tdiv (I64.mul days dayNs) 1000000)) (Dec.ofInt hourMs)).getD Dec.zero)) jp
      = some tp0 ∧ su = 0 ∧
    buyCharge s now creator fa days bytes denom referral jp =
      (if buyReferred creator referral then
        Dec.trunc (Dec.mul (Dec.ofInt tp0) (if buyLong days then dec0_95 else dec0_90)) else tp0) := by
  obtain ⟨-, -, -, -, ⟨c, hc, -, htp⟩, hsu, -⟩ := buyBase_spec hb
  rw [buyCharge_of_base hb, htp hnew, hsu, hnew]
  exact ⟨hc, rfl, rfl⟩

/-- Every balance and the gauge store after a successful purchase, with no assumption on the
accounts involved: in the purchase denomination the payer loses the price `T`, the gauge account
gains `spc`, the liquidity account `polCut`, the referral target (`refTarget`: the distinct named
referrer, otherwise the fee pool) `refCut`, the module account the remainder; no other denomination
moves; the gauge `gid` is funded (`gaugesAfter_spec`) with the same `spc` the gauge account
received.  The three shares are non-negative; gauge and liquidity account are not blocked
recipients, the referral target only when it is a distinct named referrer (the fee pool is a module
account). -/
theorem C04_buy_balances {s s' : State} {now : Int} {creator fa : String} {days bytes : Int} {denom : String}
    {referral : Option String} {jp : Dec} {gid gacc : String}
    (h : buyStorage s now creator fa days bytes denom referral jp gid gacc = some s') :
    let T := buyCharge s now creator fa days bytes denom referral jp
    let spc := spcOf s.params creator referral days T
    let polCut := polCutOf s.params creator referral days T
    let refCut := refCutOf s.params T
    let refT := refTarget s creator referral
    (∀ a d, bal s'.bank a d = bal s.bank a d +
      (if d = denom then
        (if a = s.moduleAcc then T - spc - polCut - refCut else 0) - (if a = creator then T else 0)
        + (if a = gacc then spc else 0) + (if a = s.polAcc then polCut else 0)
        + (if a = refT then refCut else 0)
       else 0)) ∧
    s'.gauges = gaugesAfter s.gauges now gid gacc (coinsOf denom spc) (now + I64.mul days dayNs) ∧
    denom = "ujkl" ∧ 0 ≤ T ∧ 0 ≤ spc ∧ 0 ≤ polCut ∧ 0 ≤ refCut ∧
    gacc ∉ s.blocked ∧ s.polAcc ∉ s.blocked ∧ (buyReferred creator referral = true → refT ∉ s.blocked) := by
  obtain ⟨tp0, su, hb, hp⟩ := buyStorage_spec h
  obtain ⟨b1, b2, b3, hT, hspc, hpol, href, h1, h2, n2, h3, n3, h4, n4, hs⟩ := buyPay_spec hp
  simp only [buyCharge_of_base hb]
  exact ⟨bal_pay_split h1 h2 h3 h4, congrArg State.gauges hs, (buyBase_spec hb).1, hT, hspc, hpol, href,
    n2, n3, n4⟩

def buyAccounts (s : State) (creator gacc : String) (referral : Option String) : List String :=
  creator :: s.moduleAcc :: gacc :: s.polAcc :: s.feeAcc ::
    (match referral with
     | some r => if r ≠ creator then [r] else []
     | none => [])

def recorded (gs : AMap String Gauge) (id d : String) : Int :=
  ((AMap.get gs id).map (fun g => amt d g.coins)).getD 0

/-- the gauge store after `newGauge'` has deposited `x` of `dn`: the gauge `id` names `acc`, runs
from `now` to `endT` and holds the previous coins of that id plus the deposit, so its recorded
amount grew by exactly `x`; no other gauge changes -/
theorem gaugesAfter_spec {gs gs' : AMap String Gauge} {now : Int} {id acc dn : String} {x endT : Int}
    (hg : gs' = gaugesAfter gs now id acc (coinsOf dn x) endT) :
    (∃ g, AMap.get gs' id = some g ∧ g.id = id ∧ g.account = acc ∧ g.startT = now ∧ g.endT = endT ∧
      g.coins = (match AMap.get gs id with
                 | some old => addCoins old.coins (coinsOf dn x)
                 | none => coinsOf dn x)) ∧
    recorded gs' id dn = recorded gs id dn + x ∧
    (∀ id', id' ≠ id → AMap.get gs' id' = AMap.get gs id') := by
  rw [hg]
  unfold gaugesAfter
  refine ⟨⟨_, AMap.get_set_self _ _ _, rfl, rfl, rfl, rfl, rfl⟩, ?_,
    fun id' hne => AMap.get_set_ne hne⟩
  unfold recorded
  rw [AMap.get_set_self]
  cases AMap.get gs id with
  | none => simp [amt_coinsOf]
  | some old => simp [amt_addCoins, amt_coinsOf]

/-- the payer is debited exactly the price (needs only: the payer is none of the recipients) -/
theorem C04_buy_debits_price {s s' : State} {now : Int} {creator fa : String} {days bytes : Int} {denom : String}
    {referral : Option String} {jp : Dec} {gid gacc : String}
    (h : buyStorage s now creator fa days bytes denom referral jp gid gacc = some s')
    (h1 : creator ≠ s.moduleAcc) (h2 : creator ≠ gacc) (h3 : creator ≠ s.polAcc)
    (h4 : creator ≠ refTarget s creator referral) :
    bal s'.bank creator denom = bal s.bank creator denom - buyCharge s now creator fa days bytes denom referral jp := by
  rw [(C04_buy_balances h).1]
  simp only [if_true, h1, h2, h3, h4, if_false]
  omega

/-- liquidity account and referral target are credited exactly their shares (needs only: each is
none of the other accounts involved) -/
theorem C04_pol_and_ref_shares {s s' : State} {now : Int} {creator fa : String} {days bytes : Int} {denom : String}
    {referral : Option String} {jp : Dec} {gid gacc : String}
    (h : buyStorage s now creator fa days bytes denom referral jp gid gacc = some s') :
    let T := buyCharge s now creator fa days bytes denom referral jp
    (s.polAcc ≠ s.moduleAcc → s.polAcc ≠ creator → s.polAcc ≠ gacc → s.polAcc ≠ refTarget s creator referral →
      bal s'.bank s.polAcc denom = bal s.bank s.polAcc denom + polCutOf s.params creator referral days T) ∧
    (refTarget s creator referral ≠ s.moduleAcc → refTarget s creator referral ≠ creator →
      refTarget s creator referral ≠ gacc → refTarget s creator referral ≠ s.polAcc →
      bal s'.bank (refTarget s creator referral) denom =
        bal s.bank (refTarget s creator referral) denom + refCutOf s.params T) := by
  have hb := (C04_buy_balances h).1
  refine ⟨fun h1 h2 h3 h4 => ?_, fun h1 h2 h3 h4 => ?_⟩ <;> rw [hb] <;>
    simp only [if_true, h1, h2, h3, h4, if_false] <;> omega

theorem C04_only_named_accounts_change {s s' : State} {now : Int} {creator fa : String} {days bytes : Int}
    {denom : String} {referral : Option String} {jp : Dec} {gid gacc : String}
    (h : buyStorage s now creator fa days bytes denom referral jp gid gacc = some s') (a d : String)
    (hor : a ∉ [creator, s.moduleAcc, gacc, s.polAcc, refTarget s creator referral] ∨ d ≠ denom) :
    bal s'.bank a d = bal s.bank a d := by
  rw [(C04_buy_balances h).1]
  rcases hor with hn | hn
  · simp only [List.mem_cons, List.not_mem_nil, or_false, not_or] at hn
    simp only [hn, if_false, Int.sub_zero, Int.add_zero, ite_self]
  · simp only [hn, if_false, Int.add_zero]

/-- `buyAccounts` lists payer, module, gauge and liquidity account and the referral target, plus the
fee pool when that is not the referral target -/
theorem buyAccounts_nodup {s : State} {creator gacc : String} {referral : Option String}
    (hd : (buyAccounts s creator gacc referral).Nodup) :
    [creator, s.moduleAcc, gacc, s.polAcc, refTarget s creator referral].Nodup ∧
    (∀ a ∈ [creator, s.moduleAcc, gacc, s.polAcc, refTarget s creator referral],
      a ∈ buyAccounts s creator gacc referral) ∧
    (buyReferred creator referral = true →
      s.feeAcc ∉ [creator, s.moduleAcc, gacc, s.polAcc, refTarget s creator referral]) := by
  rcases referral_cases s creator referral with ⟨r, rfl, hne, -, ht⟩ | ⟨hall, hb, ht⟩
  · have e : buyAccounts s creator gacc (some r) = [creator, s.moduleAcc, gacc, s.polAcc] ++ s.feeAcc :: [r] := by
      simp only [buyAccounts, ne_eq, hne, not_false_eq_true, if_true]; rfl
    have hp := List.perm_middle (l₁ := [creator, s.moduleAcc, gacc, s.polAcc]) (a := s.feeAcc) (l₂ := [r])
    rw [e] at hd ⊢; rw [ht]
    obtain ⟨hf, hn⟩ := List.nodup_cons.mp (hp.nodup_iff.mp hd)
    exact ⟨hn, fun a ha => hp.mem_iff.mpr (List.mem_cons_of_mem _ ha), fun _ => hf⟩
  · have e : buyAccounts s creator gacc referral = [creator, s.moduleAcc, gacc, s.polAcc, s.feeAcc] := by
      cases referral with
      | none => rfl
      | some r => simp [buyAccounts, hall r rfl]
    rw [ht, ← e]
    exact ⟨hd, fun _ ha => ha, fun hr => by rw [hb] at hr; cases hr⟩

/-- Accounting of a successful purchase when the accounts involved (`buyAccounts`) are pairwise
distinct — a configuration fact: module, liquidity and fee-pool accounts are fixed module accounts,
the gauge account is derived from a fresh gauge id, and nobody holds their keys.
The payer is debited exactly the price; gauge, liquidity account and referral target are credited
exactly their shares; with a distinct referrer the fee pool gets nothing, otherwise the fee pool is
the referral target; the module account keeps exactly the remainder; every other account, and every
other denomination of every account, is unchanged. -/
theorem C04_buy_accounting {s s' : State} {now : Int} {creator fa : String} {days bytes : Int} {denom : String}
    {referral : Option String} {jp : Dec} {gid gacc : String}
    (h : buyStorage s now creator fa days bytes denom referral jp gid gacc = some s')
    (hd : (buyAccounts s creator gacc referral).Nodup) :
    ∃ toPay spc polCut refCut : Int,
      toPay = buyCharge s now creator fa days bytes denom referral jp ∧
      spc = Dec.trunc (Dec.mul (Dec.ofInt toPay) (buySpr s.params (buyReferred creator referral) (buyLong days))) ∧
      polCut = Dec.trunc (Dec.mul (Dec.ofInt toPay) (buyPol s.params (buyReferred creator referral) (buyLong days))) ∧
      refCut = Dec.trunc (Dec.mul (Dec.ofInt toPay) (Dec.quoInt (Dec.ofInt s.params.referralCommission) 100)) ∧
      denom = "ujkl" ∧ 0 ≤ toPay ∧ 0 ≤ spc ∧ 0 ≤ polCut ∧ 0 ≤ refCut ∧
      bal s'.bank creator denom = bal s.bank creator denom - toPay ∧
      bal s'.bank gacc denom = bal s.bank gacc denom + spc ∧
      recorded s'.gauges gid denom = recorded s.gauges gid denom + spc ∧
      (∃ g, AMap.get s'.gauges gid = some g ∧ g.account = gacc) ∧
      bal s'.bank s.polAcc denom = bal s.bank s.polAcc denom + polCut ∧
      (∀ r, referral = some r → r ≠ creator →
        bal s'.bank r denom = bal s.bank r denom + refCut ∧
        bal s'.bank s.feeAcc denom = bal s.bank s.feeAcc denom) ∧
      ((∀ r, referral = some r → r = creator) →
        bal s'.bank s.feeAcc denom = bal s.bank s.feeAcc denom + refCut) ∧
      bal s'.bank s.moduleAcc denom = bal s.bank s.moduleAcc denom + (toPay - spc - polCut - refCut) ∧
      (∀ a d, a ∉ buyAccounts s creator gacc referral ∨ d ≠ denom → bal s'.bank a d = bal s.bank a d) := by
  have hS := C04_pol_and_ref_shares h
  obtain ⟨hbal, hgs, hden, hT, hspc, hpol, href, -⟩ := C04_buy_balances h
  obtain ⟨⟨g, hg1, -, hg2, -⟩, hrec, -⟩ := gaugesAfter_spec hgs
  obtain ⟨hnd, hsub, hfee⟩ := buyAccounts_nodup hd
  simp only [List.nodup_cons, List.mem_cons, List.not_mem_nil, or_false, not_or, List.nodup_nil,
    and_true, not_false_eq_true] at hnd
  obtain ⟨⟨c1, c2, c3, c4⟩, ⟨m1, m2, m3⟩, ⟨g1, g2⟩, p1⟩ := hnd
  have hrt := hS.2 (Ne.symm m3) (Ne.symm c4) (Ne.symm g2) (Ne.symm p1)
  refine ⟨_, spcOf s.params creator referral days _, polCutOf s.params creator referral days _,
    refCutOf s.params _, rfl, rfl, rfl, rfl, hden, hT, hspc, hpol, href, C04_buy_debits_price h c1 c2 c3 c4,
    ?_, hrec, ⟨g, hg1, hg2⟩, hS.1 (Ne.symm m2) (Ne.symm c3) (Ne.symm g1) p1, ?_, ?_, ?_, ?_⟩
  · rw [hbal]
    simp only [if_true, Ne.symm c2, Ne.symm m1, g1, g2, if_false]
    omega
  · rintro r rfl hne
    rcases referral_cases s creator (some r) with ⟨_, e, -, hb, ht⟩ | ⟨hall, -, -⟩
    · cases e; rw [ht] at hrt
      exact ⟨hrt, C04_only_named_accounts_change h _ _ (Or.inl (hfee hb))⟩
    · exact absurd (hall r rfl) hne
  · intro hall
    rcases referral_cases s creator referral with ⟨r, e, hne, -, -⟩ | ⟨-, -, ht⟩
    · exact absurd (hall r e) hne
    · rwa [ht] at hrt
  · rw [hbal]
    simp only [if_true, Ne.symm c1, m1, m2, m3, if_false]
    omega
  · exact fun a d hor => C04_only_named_accounts_change h a d (hor.imp_left fun hn hm => hn (hsub a hm))

/-! ## the shares are the governance-set percentages, rounded down -/

/-- The three shares of any price under any parameters: the referral, liquidity and provider
percentages of `T` (`k = discountPts` points taken off the liquidity percentage), truncated toward
zero.  No sign condition is needed. -/
theorem shares_tdiv (p : Params) (creator : String) (referral : Option String) (days T : Int) :
    refCutOf p T = Int.tdiv (T * p.referralCommission) 100 ∧
    polCutOf p creator referral days T =
      Int.tdiv (T * (p.polRatio - discountPts (buyReferred creator referral) (buyLong days))) 100 ∧
    spcOf p creator referral days T = Int.tdiv (T * (100 - p.referralCommission - p.polRatio)) 100 := by
  unfold refCutOf polCutOf spcOf refDecOf
  rw [buyPol_pct, buySpr_pct]
  exact ⟨trunc_mul_pct_tdiv T _, trunc_mul_pct_tdiv T _, trunc_mul_pct_tdiv T _⟩

/-- closed forms of the three shares of a price `T ≥ 0`: the referral share is `⌊T·ref/100⌋`; the
provider (gauge) share is `⌊T·(100 − ref − pol)/100⌋` whether or not the purchase is referred; the
liquidity share is `⌊T·(pol − k)/100⌋` where `k = discountPts` is 0 without a distinct referrer,
10 for a referred purchase of at most a year and 5 for a longer one.  (Side conditions: the
percentages involved are non-negative — `pol ≥ k`, `ref + pol ≤ 100`.) -/
theorem C04_shares_closed_form (p : Params) (creator : String) (referral : Option String) (days T : Int)
    (hT : 0 ≤ T) (hr : 0 ≤ p.referralCommission)
    (hp : discountPts (buyReferred creator referral) (buyLong days) ≤ p.polRatio)
    (hs : p.referralCommission + p.polRatio ≤ 100) :
    refCutOf p T = T * p.referralCommission / 100 ∧
    polCutOf p creator referral days T =
      T * (p.polRatio - discountPts (buyReferred creator referral) (buyLong days)) / 100 ∧
    spcOf p creator referral days T = T * (100 - p.referralCommission - p.polRatio) / 100 :=
  by
  obtain ⟨e1, e2, e3⟩ := shares_tdiv p creator referral days T
  rw [e1, e2, e3, Int.tdiv_eq_ediv_of_nonneg (Int.mul_nonneg hT hr),
    Int.tdiv_eq_ediv_of_nonneg (Int.mul_nonneg hT (by omega)),
    Int.tdiv_eq_ediv_of_nonneg (Int.mul_nonneg hT (by omega))]
  exact ⟨rfl, rfl, rfl⟩

/-- the liquidity share in the three cases, as the property states it -/
theorem C04_pol_share_cases (p : Params) (creator : String) (referral : Option String) (days T : Int)
    (hT : 0 ≤ T) :
    (buyReferred creator referral = false → 0 ≤ p.polRatio →
      polCutOf p creator referral days T = T * p.polRatio / 100) ∧
    (buyReferred creator referral = true → buyLong days = false → 10 ≤ p.polRatio →
      polCutOf p creator referral days T = T * (p.polRatio - 10) / 100) ∧
    (buyReferred creator referral = true → buyLong days = true → 5 ≤ p.polRatio →
      polCutOf p creator referral days T = T * (p.polRatio - 5) / 100) := by
  rw [(shares_tdiv p creator referral days T).2.1]
  refine ⟨fun h1 h2 => ?_, fun h1 h2 h3 => ?_, fun h1 h2 h3 => ?_⟩ <;>
    simp only [discountPts, h1, h2, if_true, if_false, Bool.false_eq_true, Int.sub_zero] <;>
    exact Int.tdiv_eq_ediv_of_nonneg (Int.mul_nonneg hT (by omega))

/-- Each share `⌊T·pct/100⌋` differs from the exact percentage `T·pct/100`
by less than one unit: `100·share ≤ T·pct < 100·share + 100`. -/
theorem C04_shares_within_one_unit (p : Params) (creator : String) (referral : Option String) (days T : Int)
    (hT : 0 ≤ T) (hr : 0 ≤ p.referralCommission)
    (hp : discountPts (buyReferred creator referral) (buyLong days) ≤ p.polRatio)
    (hs : p.referralCommission + p.polRatio ≤ 100) :
    (100 * refCutOf p T ≤ T * p.referralCommission ∧ T * p.referralCommission < 100 * refCutOf p T + 100) ∧
    (100 * polCutOf p creator referral days T
        ≤ T * (p.polRatio - discountPts (buyReferred creator referral) (buyLong days)) ∧
      T * (p.polRatio - discountPts (buyReferred creator referral) (buyLong days))
        < 100 * polCutOf p creator referral days T + 100) ∧
    (100 * spcOf p creator referral days T ≤ T * (100 - p.referralCommission - p.polRatio) ∧
      T * (100 - p.referralCommission - p.polRatio) < 100 * spcOf p creator referral days T + 100) := by
  obtain ⟨e1, e2, e3⟩ := C04_shares_closed_form p creator referral days T hT hr hp hs
  rw [e1, e2, e3]
  generalize T * p.referralCommission = x
  generalize T * (p.polRatio - discountPts (buyReferred creator referral) (buyLong days)) = y
  generalize T * (100 - p.referralCommission - p.polRatio) = z
  omega

theorem pct_floors_le (T x y z : Int) (hx : 0 ≤ x) (hy : 0 ≤ y) (hz : 0 ≤ z) (h : x + y + z ≤ T * 100) :
    0 ≤ x / 100 ∧ 0 ≤ y / 100 ∧ 0 ≤ z / 100 ∧ x / 100 + y / 100 + z / 100 ≤ T ∧
    0 ≤ T - x / 100 - y / 100 - z / 100 := by omega

/-- Under valid parameters (percentages non-negative, `ref + pol ≤ 100`, and the liquidity
percentage at least the referral discount taken out of it) the three shares are non-negative and
together at most the price: the module account keeps a non-negative remainder.  (The three
percentages add up to `100 − k`, `k = discountPts`: on a referred purchase the module account keeps
`k` percent of the already discounted price besides the rounding residue — in the example
purchase below it keeps 3602 of 35999.) -/
theorem C04_credits_le_debit (p : Params) (creator : String) (referral : Option String) (days T : Int)
    (hT : 0 ≤ T) (hr : 0 ≤ p.referralCommission)
    (hp : discountPts (buyReferred creator referral) (buyLong days) ≤ p.polRatio)
    (hs : p.referralCommission + p.polRatio ≤ 100) :
    0 ≤ spcOf p creator referral days T ∧ 0 ≤ polCutOf p creator referral days T ∧ 0 ≤ refCutOf p T ∧
    spcOf p creator referral days T + polCutOf p creator referral days T + refCutOf p T ≤ T ∧
    0 ≤ T - spcOf p creator referral days T - polCutOf p creator referral days T - refCutOf p T := by
  obtain ⟨e1, e2, e3⟩ := C04_shares_closed_form p creator referral days T hT hr hp hs
  rw [e1, e2, e3]
  have hk : 0 ≤ discountPts (buyReferred creator referral) (buyLong days) := by
    unfold discountPts; split <;> (try split) <;> omega
  refine pct_floors_le T _ _ _ (Int.mul_nonneg hT (by omega)) (Int.mul_nonneg hT (by omega))
    (Int.mul_nonneg hT hr) ?_
  rw [← Int.mul_add, ← Int.mul_add]
  exact Int.mul_le_mul_of_nonneg_left (by omega) hT

/-- a purchase under a liquidity percentage below the referral discount: the liquidity share is
negative as soon as it reaches one unit in size -/
theorem polCut_negative (p : Params) (creator : String) (referral : Option String) (days T : Int)
    (hbig : 100 ≤ T * (discountPts (buyReferred creator referral) (buyLong days) - p.polRatio)) :
    polCutOf p creator referral days T < 0 := by
  -- truncation goes toward zero: `T·(pol − k) = −y` with `y ≥ 100` gives `−⌊y/100⌋ < 0`
  rw [(shares_tdiv p creator referral days T).2.1,
    show p.polRatio - discountPts (buyReferred creator referral) (buyLong days) =
      -(discountPts (buyReferred creator referral) (buyLong days) - p.polRatio) by omega,
    Int.mul_neg, Int.neg_tdiv, Int.tdiv_eq_ediv_of_nonneg (by omega)]
  omega

/-- A negative liquidity share fails the purchase (`sdk.NewCoin` panics on a negative amount),
e.g. a referred purchase while `polRatio < 10`: nothing is debited. -/
theorem C04_negative_pol_share_fails (s : State) (now : Int) (creator fa : String) (days bytes : Int)
    (denom : String) (referral : Option String) (jp : Dec) (gid gacc : String)
    (hneg : polCutOf s.params creator referral days
      (buyCharge s now creator fa days bytes denom referral jp) < 0) :
    buyStorage s now creator fa days bytes denom referral jp gid gacc = none := by
  cases h : buyStorage s now creator fa days bytes denom referral jp gid gacc with
  | none => rfl
  | some s' =>
    have := (C04_buy_balances h).2.2.2.2.2.1
    omega

/-- in parameter terms: a referred purchase while `polRatio` is below the discount (10, or 5 for
more than a year) fails as soon as the price reaches `100/(k − polRatio)` units -/
theorem C04_low_pol_referred_purchase_fails (s : State) (now : Int) (creator fa : String) (days bytes : Int)
    (denom : String) (referral : Option String) (jp : Dec) (gid gacc : String)
    (hT : 0 ≤ buyCharge s now creator fa days bytes denom referral jp)
    (hp : s.params.polRatio ≤ discountPts (buyReferred creator referral) (buyLong days))
    (hbig : 100 ≤ buyCharge s now creator fa days bytes denom referral jp *
      (discountPts (buyReferred creator referral) (buyLong days) - s.params.polRatio)) :
    buyStorage s now creator fa days bytes denom referral jp gid gacc = none :=
  -- `hbig` alone carries the proof; the two sign conditions say which purchases are meant
  C04_negative_pol_share_fails s now creator fa days bytes denom referral jp gid gacc
    (polCut_negative s.params creator referral days _ hbig)

/-- A successful purchase only moves tokens among the payer, the module account, the gauge account,
the liquidity account and the referral target: the total over any duplicate-free set of accounts
containing them is unchanged, for every denomination. -/
theorem C04_supply_unchanged {s s' : State} {now : Int} {creator fa : String} {days bytes : Int}
    {denom : String} {referral : Option String} {jp : Dec} {gid gacc : String}
    (h : buyStorage s now creator fa days bytes denom referral jp gid gacc = some s')
    (accts : List String) (hnd : accts.Nodup)
    (h1 : creator ∈ accts) (h2 : s.moduleAcc ∈ accts) (h3 : gacc ∈ accts) (h4 : s.polAcc ∈ accts)
    (h5 : refTarget s creator referral ∈ accts) (d : String) :
    total s'.bank accts d = total s.bank accts d := by
  obtain ⟨tp0, su, hb, hp⟩ := buyStorage_spec h
  obtain ⟨b1, b2, b3, -, -, -, -, q1, q2, -, q3, -, q4, -, -⟩ := buyPay_spec hp
  have t1 := total_send q1 accts hnd d
  have t2 := total_send q2 accts hnd d
  have t3 := total_send q3 accts hnd d
  have t4 := total_send q4 accts hnd d
  simp only [h1, h2, h3, h4, h5, if_true] at t1 t2 t3 t4
  omega

theorem C04_transfer_conserves {src dst : String} {cs : Coins} {b b' : Bank}
    (h : send b src dst cs = some b') (hne : src ≠ dst) (d : String) :
    bal b' src d + bal b' dst d = bal b src d + bal b dst d :=
  (Sent.one (P := (· = src)) (Q := (· = dst)) rfl rfl h).bal_add hne d

/-! ## the one-time file payment -/

/-- price of a pay-once file: `GetStorageCostKbs` of its footprint and lifetime (0 if it panics) -/
def postCost (s : State) (h : Int) (fs mp ex : Int) (jp : Dec) : Int :=
  (storageCostKbs s.params.pricePerTbPerMonth (postKbs fs mp) (postHours h ex) jp).getD 0

def postSpc (s : State) (cost : Int) : Int := Dec.trunc (Dec.mul (Dec.ofInt cost) (postSpr s.params))

/-- A pay-once post only succeeds when the gauge it creates ends before 10000-01-01 (later instants
cannot be stored: the timestamp codec panics and the transaction fails).  Consequently this gauge's
end in whole microseconds is below 2^62: the reward block's `UnixMicro` arithmetic on it cannot
wrap. -/
theorem C04_payonce_gauge_end_representable {s s' : State} {h now : Int} {creator merkle : String}
    {fs mp ex pt : Int} {note : String} {nv : Bool} {jp : Dec} {gid gacc : String}
    (hs : postFile s h now creator merkle fs mp ex pt note nv jp gid gacc = some s') (hex : ex > 0) :
    0 < postDays h ex ∧ now + postDays h ex * dayNs < protoMaxNs ∧
    Int.tdiv (now + postDays h ex * dayNs) 1000 < 2 ^ 62 := by
  obtain ⟨-, -, -, -, ⟨-, _, _, h1, h2, -⟩ | ⟨hle, -⟩⟩ := postFile_spec hs
  · -- 10000-01-01 in whole microseconds is below 2^62
    exact ⟨h1, h2, Int.lt_of_le_of_lt (tdiv1000_mono (Int.le_of_lt h2)) (by decide)⟩
  · omega

/-- Pay-once `postFile`: the payer is debited exactly the cost, the gauge account credited
exactly the provider share `trunc(cost·(1 − ref/100 − pol/100))`, which is also exactly what the
gauge is funded with (`gaugesAfter_spec`); the remainder stays in the module account; nothing else
moves (general balance formula, no assumption on the accounts). -/
theorem C04_postFile_payonce_balances {s s' : State} {h now : Int} {creator merkle : String} {fs mp ex pt : Int}
    {note : String} {nv : Bool} {jp : Dec} {gid gacc : String}
    (hs : postFile s h now creator merkle fs mp ex pt note nv jp gid gacc = some s') (hex : ex > 0) :
    let cost := postCost s h fs mp ex jp
    let spc := postSpc s cost
    (∀ a d, bal s'.bank a d = bal s.bank a d +
      (if d = "ujkl" then
        (if a = s.moduleAcc then cost - spc else 0) - (if a = creator then cost else 0)
        + (if a = gacc then spc else 0)
       else 0)) ∧
    s'.gauges = gaugesAfter s.gauges now gid gacc (coinsOf "ujkl" spc) (now + postDays h ex * dayNs) ∧
    storageCostKbs s.params.pricePerTbPerMonth (postKbs fs mp) (postHours h ex) jp = some cost ∧
    0 ≤ cost ∧ 0 ≤ spc ∧ gacc ∉ s.blocked := by
  obtain ⟨-, -, -, -, ⟨-, cost, b1, -, -, hcost, hc0, hspc, h1, h2, n2, e⟩ | ⟨hle, -⟩⟩ := postFile_spec hs
  · -- a purchase whose liquidity and referral shares are zero
    have hbal := bal_pay_split (p := gacc) (r := gacc) (y := 0) (z := 0) h1 h2 rfl rfl
    simp only [ite_self, Int.add_zero, Int.sub_zero] at hbal
    simp only [postCost, postSpc, hcost, Option.getD_some]
    exact ⟨hbal, congrArg State.gauges e, trivial, hc0, hspc, n2⟩
  · omega

/-- the same for pairwise distinct payer, module and gauge accounts, plus the remainder bound under
valid parameters -/
theorem C04_postFile_payonce_accounting {s s' : State} {h now : Int} {creator merkle : String} {fs mp ex pt : Int}
    {note : String} {nv : Bool} {jp : Dec} {gid gacc : String}
    (hs : postFile s h now creator merkle fs mp ex pt note nv jp gid gacc = some s') (hex : ex > 0)
    (hd : [creator, s.moduleAcc, gacc].Nodup) :
    let cost := postCost s h fs mp ex jp
    let spc := postSpc s cost
    0 ≤ cost ∧ 0 ≤ spc ∧
    bal s'.bank creator "ujkl" = bal s.bank creator "ujkl" - cost ∧
    bal s'.bank gacc "ujkl" = bal s.bank gacc "ujkl" + spc ∧
    recorded s'.gauges gid "ujkl" = recorded s.gauges gid "ujkl" + spc ∧
    bal s'.bank s.moduleAcc "ujkl" = bal s.bank s.moduleAcc "ujkl" + (cost - spc) ∧
    (∀ a d, a ∉ [creator, s.moduleAcc, gacc] ∨ d ≠ "ujkl" → bal s'.bank a d = bal s.bank a d) ∧
    (0 ≤ s.params.referralCommission → 0 ≤ s.params.polRatio →
      s.params.referralCommission + s.params.polRatio ≤ 100 →
      spc = cost * (100 - s.params.referralCommission - s.params.polRatio) / 100 ∧ spc ≤ cost) := by
  obtain ⟨hbal, hgs, -, hc0, hspc, -⟩ := C04_postFile_payonce_balances hs hex
  simp only [List.nodup_cons, List.mem_cons, List.not_mem_nil, or_false, not_or, List.nodup_nil,
    and_true, not_false_eq_true] at hd
  obtain ⟨⟨c1, c2⟩, m1⟩ := hd
  refine ⟨hc0, hspc, ?_, ?_, (gaugesAfter_spec hgs).2.1, ?_, fun a d hor => ?_, fun hr hp hsum => ?_⟩
  · rw [hbal]; simp only [if_true, c1, c2, if_false]; omega
  · rw [hbal]; simp only [if_true, Ne.symm m1, Ne.symm c2, if_false]; omega
  · rw [hbal]; simp only [if_true, Ne.symm c1, m1, if_false]; omega
  · rw [hbal]
    rcases hor with hn | hn
    · simp only [List.mem_cons, List.not_mem_nil, or_false, not_or] at hn
      simp only [hn, if_false, Int.sub_zero, Int.add_zero, ite_self]
    · simp only [hn, if_false, Int.add_zero]
  · unfold postSpc
    rw [postSpr_pct, trunc_mul_pct_tdiv, Int.tdiv_eq_ediv_of_nonneg (Int.mul_nonneg hc0 (by omega))]
    exact ⟨rfl, Int.ediv_le_of_le_mul (by omega) (Int.mul_le_mul_of_nonneg_left (by omega) hc0)⟩

/-- the plan-paid branch (`expires ≤ 0`) moves no tokens at all and creates no gauge -/
theorem C04_postFile_plan_moves_no_tokens {s s' : State} {h now : Int} {creator merkle : String} {fs mp ex pt : Int}
    {note : String} {nv : Bool} {jp : Dec} {gid gacc : String}
    (hs : postFile s h now creator merkle fs mp ex pt note nv jp gid gacc = some s') (hex : ¬ ex > 0) :
    s'.bank = s.bank ∧ s'.gauges = s.gauges :=
  have h := postFile_plan_sameMoney hs hex
  ⟨h.bank, h.gauges⟩

/-! ## regression witness and non-vacuity -/

/-- the pre-fix payment stage: the referrer was sent the *liquidity* tokens -/
def payReferralUnfixed (s : State) (creator : String) (referral : Option String)
    (polTokens refTokens : Coins) : Option Bank :=
  match referral with
  | some r => if buyReferred creator referral then sendFromModule s s.moduleAcc r polTokens
              else Bank.send s.bank s.moduleAcc s.feeAcc refTokens
  | none => Bank.send s.bank s.moduleAcc s.feeAcc refTokens

def buyPayUnfixed (s : State) (now : Int) (creator forAddress : String) (durationDays bytes : Int)
    (denom : String) (referral : Option String) (gaugeId gaugeAcc : String) (toPay0 spaceUsed : Int) : Option State := do
  let referred := buyReferred creator referral
  let long := buyLong durationDays
  let toPay := buyToPay toPay0 referred long
  req (0 ≤ toPay)
  let payCoins ← Bank.newCoins denom toPay
  let b1 ← Bank.send s.bank creator s.moduleAcc payCoins
  let spcTokens ← Bank.newCoins denom (Dec.trunc (Dec.mul (Dec.ofInt toPay) (buySpr s.params referred long)))
  let b2 ← sendFromModule { s with bank := b1 } s.moduleAcc gaugeAcc spcTokens
  let polTokens ← Bank.newCoins denom (Dec.trunc (Dec.mul (Dec.ofInt toPay) (buyPol s.params referred long)))
  let b3 ← sendFromModule { s with bank := b2 } s.moduleAcc s.polAcc polTokens
  let refTokens ← Bank.newCoins denom (Dec.trunc (Dec.mul (Dec.ofInt toPay) (refDecOf s.params)))
  let b4 ← payReferralUnfixed { s with bank := b3 } creator referral polTokens refTokens
  some { s with
    bank := b4,
    payinfo := AMap.set s.payinfo forAddress
      { startT := now, endT := now + I64.mul durationDays dayNs, spaceAvailable := bytes,
        spaceUsed := spaceUsed, address := forAddress },
    gauges := gaugesAfter s.gauges now gaugeId gaugeAcc spcTokens (now + I64.mul durationDays dayNs) }

def buyStorageUnfixed (s : State) (now : Int) (creator fa : String) (days bytes : Int) (denom : String)
    (referral : Option String) (jp : Dec) (gid gacc : String) : Option State :=
  (buyBase s now fa days bytes denom jp).bind
    (fun p => buyPayUnfixed s now creator fa days bytes denom referral gid gacc p.1 p.2)

/-- default parameters: referral commission 25 %, liquidity share 40 % -/
def exParams : Params :=
  { proofWindow := 50, checkWindow := 100, chunkSize := 1024, pricePerTbPerMonth := 8,
    collateralPrice := 10000000000, attestFormSize := 5, attestMinToPass := 3,
    referralCommission := 25, polRatio := 40 }

def exBuy : State :=
  { files := [], files2 := [], proofs := [], providers := [], payinfo := [], collateral := [],
    gauges := [], attests := [], reports := [],
    bank := [(("alice", "ujkl"), 100000000)],
    params := exParams, moduleAcc := "storage", collateralAcc := "coll", polAcc := "pol", feeAcc := "fees",
    blocked := ["coll", "fees", "storage"] }

/-- JKL price 0.20 -/
def exPrice : Dec := ⟨200000000000000000⟩

/-- Non-vacuity: alice buys 3 GB for 30 days naming bob as referrer.  The price is
⌊39999 · 0.90⌋ = 35999; the gauge gets 35 %, the liquidity account 40 − 10 = 30 %, bob 25 %. -/
example : buyCharge exBuy 1000 "alice" "alice" 30 3000000000 "ujkl" (some "bob") exPrice = 35999 := by decide +kernel
example : (buyStorage exBuy 1000 "alice" "alice" 30 3000000000 "ujkl" (some "bob") exPrice "g1" "gauge1").map (·.bank)
    = some [(("alice", "ujkl"), 99964001), (("storage", "ujkl"), 3602), (("gauge1", "ujkl"), 12599),
            (("pol", "ujkl"), 10799), (("bob", "ujkl"), 8999)] := by decide +kernel
example : (buyAccounts exBuy "alice" "gauge1" (some "bob")).Nodup := by decide +kernel
example : (buyStorage exBuy 1000 "alice" "alice" 30 3000000000 "ujkl" (some "bob") exPrice "g1" "gauge1").map (·.gauges)
    = some [("g1", { id := "g1", startT := 1000, endT := 2592000000001000, coins := [("ujkl", 12599)],
                     account := "gauge1" })] := by decide +kernel
/-- without a referrer the full price 39999 is charged and the fee pool gets the 25 % -/
example : (buyStorage exBuy 1000 "alice" "alice" 30 3000000000 "ujkl" none exPrice "g1" "gauge1").map (·.bank)
    = some [(("alice", "ujkl"), 99960001), (("storage", "ujkl"), 2), (("gauge1", "ujkl"), 13999),
            (("pol", "ujkl"), 15999), (("fees", "ujkl"), 9999)] := by decide +kernel
/-- the shares are the closed forms of `C04_shares_closed_form` -/
example : (35999 * 25 / 100 : Int) = 8999 ∧ (35999 * (40 - 10) / 100 : Int) = 10799 ∧
    (35999 * (100 - 25 - 40) / 100 : Int) = 12599 := by decide +kernel

/-- Regression witness: with the pre-fix code the referrer receives the 30 % liquidity amount
(10799) instead of its 25 % commission (8999). -/
example : (buyStorageUnfixed exBuy 1000 "alice" "alice" 30 3000000000 "ujkl" (some "bob") exPrice "g1" "gauge1").map
    (fun s => bal s.bank "bob" "ujkl") = some 10799 := by decide +kernel
example : (buyStorage exBuy 1000 "alice" "alice" 30 3000000000 "ujkl" (some "bob") exPrice "g1" "gauge1").map
    (fun s => bal s.bank "bob" "ujkl") = some 8999 := by decide +kernel

/-- a referred purchase under `polRatio = 5 < 10` fails (negative liquidity share) and debits nothing -/
example : buyStorage { exBuy with params := { exParams with polRatio := 5 } } 1000 "alice" "alice" 30 3000000000
    "ujkl" (some "bob") exPrice "g1" "gauge1" = none := by decide +kernel

/-- a pay-once file: 1 MB × 3 copies for about 100 days -/
example : (postFile exBuy 10 1000 "alice" "abcd" 1000000 3 1440010 0 "{}" true exPrice "g2" "gauge2").map (·.bank)
    = some [(("alice", "ujkl"), 99999867), (("storage", "ujkl"), 87), (("gauge2", "ujkl"), 46)] := by decide +kernel
example : postCost exBuy 10 1000000 3 1440010 exPrice = 133 ∧ (133 * (100 - 25 - 40) / 100 : Int) = 46 := by decide +kernel

/-! ## The price formulas as they stand in the source (regenerated tie) -/

/-- `GetStorageCostKbsWithPrice`, translated from x/storage/keeper/utils.go on every run, is the
model's `storageCostKbs` (its only outside input being the JKL price). -/
theorem C04_generated_kbs_price_is_the_model (pp kbs hours : Int) (jkl : Dec) :
    Generated.Pure.GetStorageCostKbsWithPrice jkl kbs hours pp = storageCostKbs pp kbs hours jkl ∧
    Generated.Pure.GetStorageCostKbsWithPrice_inputs = ["k.GetJklPrice(ctx)"] := by
  refine ⟨?_, rfl⟩
  simp only [Generated.Pure.GetStorageCostKbsWithPrice, storageCostKbs, bind, Option.bind]

/-- `GetStorageCost`, translated from the source on every run, is the model's `storageCost`: the
same tiers (≥ 20 000 GB, ≥ 5 000 GB), the same monthly/yearly switch at 365·24 hours, the same
decimal constants, the same order of truncating divisions. -/
theorem C04_generated_plan_price_is_the_model (pp gbs hours : Int) (jkl : Dec) :
    Generated.Pure.GetStorageCost pp jkl gbs hours = storageCost pp gbs hours jkl ∧
    Generated.Pure.GetStorageCost_inputs = ["k.GetParams(ctx).PricePerTbPerMonth", "k.GetJklPrice(ctx)"] := by
  refine ⟨?_, rfl⟩
  unfold Generated.Pure.GetStorageCost storageCost
  -- two durations times three tiers: in each, both sides are the same expression
  have tier : gbs ≥ 20000 ∨ (¬ gbs ≥ 20000 ∧ gbs ≥ 5000) ∨ (¬ gbs ≥ 20000 ∧ ¬ gbs ≥ 5000) := by omega
  by_cases h1 : hours < 365 * 24 <;> rcases tier with h2 | ⟨h2, h3⟩ | ⟨h2, h3⟩ <;>
    simp only [*, decide_true, decide_false, if_true, if_false, Bool.false_eq_true, bind,
      Option.bind_map] <;>
    rfl

/-- The three cuts of a plan purchase — `storageProviderCut`, `polCut`, `refCut`, sliced out of
`BuyStorage` and translated on every run as functions of the amount paid, the referral
percentage, the liquidity share `pol` and the `discount` (both decided on the referred / long
branch) — are the expressions the model's `buyStorage` evaluates and the C04 share theorems are
about: amount × (1 − ref/100 − pol − discount), amount × pol, amount × ref/100, each on exact
decimals, truncated only when turned into coins. -/
theorem C04_generated_plan_cuts_are_the_model (refComm toPay : Int) (pol discount : Dec) :
    Generated.Pure.BuyStorage_storageProviderCut refComm pol discount toPay =
      Dec.mul (Dec.ofInt toPay)
        (Dec.sub (Dec.sub (Dec.sub Dec.one (Dec.quoInt (Dec.ofInt refComm) 100)) pol) discount) ∧
    Generated.Pure.BuyStorage_polCut toPay pol = Dec.mul (Dec.ofInt toPay) pol ∧
    Generated.Pure.BuyStorage_refCut refComm toPay = Dec.mul (Dec.ofInt toPay) (Dec.quoInt (Dec.ofInt refComm) 100) ∧
    Generated.Pure.BuyStorage_storageProviderCut_inputs = ["params.ReferralCommission", "pol", "discount", "toPay.Amount"] ∧
    Generated.Pure.BuyStorage_polCut_inputs = ["toPay.Amount", "pol"] ∧
    Generated.Pure.BuyStorage_refCut_inputs = ["params.ReferralCommission", "toPay.Amount"] :=
  ⟨rfl, rfl, rfl, rfl, rfl, rfl⟩

/-- The paid period and the provider cut of a one-time-payment post, sliced out of `PostFile`:
`days = ((Expires − height)·6 / 60 / 60) / 24` (the model's `postDays`, as long as the product
stays inside int64 — beyond it the model wraps like the chain does) and
`cut = cost × (1 − ref/100 − pol/100)` (the model's `postSpr`). -/
theorem C04_generated_payonce_terms_are_the_model (h ex cost : Int) (p : Params)
    (hr : I64.inRange ((ex - h) * 6) = true) :
    Generated.Pure.PostFile_days ex h = postDays h ex ∧
    Generated.Pure.PostFile_storageProviderCut p.referralCommission p.polRatio cost =
      Dec.mul (Dec.ofInt cost) (postSpr p) ∧
    Generated.Pure.PostFile_days_inputs = ["msg.Expires", "ctx.BlockHeight()"] ∧
    Generated.Pure.PostFile_storageProviderCut_inputs = ["params.ReferralCommission", "params.PolRatio", "toPay.Amount"] := by
  refine ⟨?_, rfl, rfl, rfl⟩
  unfold Generated.Pure.PostFile_days postDays postHours
  have : I64.mul (ex - h) 6 = (ex - h) * 6 := by
    unfold I64.inRange I64.minV I64.maxV at hr
    simp only [Bool.and_eq_true, decide_eq_true_eq] at hr
    unfold I64.mul I64.wrap
    omega
  rw [this]

/-- The duration and upgrade arithmetic of a plan purchase, sliced from `BuyStorage` and
`UpgradeStorage`: the plan length in hours is the millisecond duration divided by 3 600 000 (as a
decimal, truncated where it is used), the remaining time of the running plan likewise, the old
plan's size in whole GB is `SpaceAvailable / gb`, and the upgrade price is the new plan's full
price minus `GetStorageCost(currentGbs, remaining hours)` — the terms of the model's `buyStorage` /
`upgradeCost`. -/
theorem C04_generated_upgrade_terms_are_the_model (ms left avail newCost oldCost : Int) :
    Generated.Pure.BuyStorage_hours ms = Dec.quo? (Dec.ofInt ms) (Dec.ofInt hourMs) ∧
    Generated.Pure.UpgradeStorage_proratedDurationInHour left = Dec.quo? (Dec.ofInt left) (Dec.ofInt hourMs) ∧
    Generated.Pure.UpgradeStorage_currentGbs avail gb = Int.tdiv avail gb ∧
    Generated.Pure.UpgradeStorage_price newCost oldCost = some (newCost - oldCost) ∧
    Generated.Pure.BuyStorage_hours_inputs = ["duration.Milliseconds()"] ∧
    Generated.Pure.UpgradeStorage_proratedDurationInHour_inputs = ["proratedDuration.Milliseconds()"] ∧
    Generated.Pure.UpgradeStorage_currentGbs_inputs = ["payInfo.SpaceAvailable", "gb"] ∧
    Generated.Pure.UpgradeStorage_price_inputs =
      ["storageCost", "k.GetStorageCost(ctx, currentGbs, proratedDurationInHour.TruncateInt64())"] :=
  -- both translations end in `>>= some`, and `60 * 60 * 1000` is `hourMs`
  ⟨Option.bind_fun_some (Dec.quo? (Dec.ofInt ms) (Dec.ofInt hourMs)),
   Option.bind_fun_some (Dec.quo? (Dec.ofInt left) (Dec.ofInt hourMs)), rfl, rfl, rfl, rfl, rfl, rfl⟩

/-! ## The parameter table as it stands in the source (regenerated fact) -/

/-- Which store key of the `storage` parameter subspace is bound to which field of `Params`, with
which validator (x/storage/types/params.go, `ParamSetPairs`): a governance change addresses a
parameter *by key*, so the percentages the C04 theorems speak of are the ones governance set only
while `POLRatio` writes `PolRatio`, `Referrals` writes `ReferralCommission`, and so on. -/
def C04_expectedParamPairs : List (String × String × String) := [
  ("KeyDepositAccount", "&p.DepositAccount", "validateDeposit"),
  ("KeyProofWindow", "&p.ProofWindow", "validateProofWindow"),
  ("KeyChunkSize", "&p.ChunkSize", "validateChunkSize"),
  ("KeyMissesToBurn", "&p.MissesToBurn", "validateMissesToBurn"),
  ("KeyPriceFeed", "&p.PriceFeed", "validatePriceFeed"),
  ("KeyMaxContractAgeInBlocks", "&p.MaxContractAgeInBlocks", "validateMaxContractAgeInBlocks"),
  ("KeyPricePerTbPerMonth", "&p.PricePerTbPerMonth", "validatePricePerTbPerMonth"),
  ("KeyAttestFormSize", "&p.AttestFormSize", "validateAttestFormSize"),
  ("KeyAttestMinToPass", "&p.AttestMinToPass", "validateAttestMinToPass"),
  ("KeyCollateralPrice", "&p.CollateralPrice", "validateCollateralPrice"),
  ("KeyCheckWindow", "&p.CheckWindow", "validateCheckWindow"),
  ("KeyPOLRatio", "&p.PolRatio", "validateInt64"),
  ("KeyReferrals", "&p.ReferralCommission", "validateInt64")]

theorem C04_param_keys_as_modelled : Generated.paramPairs_storage = C04_expectedParamPairs := rfl

end Canine.Storage
