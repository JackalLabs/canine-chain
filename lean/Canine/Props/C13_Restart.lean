/-
C13 — Block emission is non-increasing … : **across a restart of the network from its exported genesis.**

`Props/C13.lean` proves that consecutive emissions of one application are non-increasing.  A restart
from the exported genesis starts a fresh application whose only memory of the emission is the record
the genesis carries (`x/jklmint/genesis.go` exports the record of the last block; without it the
first block after a restart would restart the emission from `TokensPerBlock`).  Here, on the concrete jklmint store model of
`Canine/Genesis/Modules.lean`: the block after export → import emits exactly what the block after
no restart would have emitted, hence at most the last emission before the restart and never a negative
amount.  A separate file because it imports Proofs/GenesisModules.
-/
import Canine.Props.C13
import Canine.Proofs.GenesisModules
namespace Canine.Genesis
open Canine.Mint

/-- C13 across a restart.  For every emission-record store satisfying its invariant and every
balances state: the first `BlockMint` of the application initialised from the exported genesis mints
exactly what the next `BlockMint` of the original application mints, to the same accounts. -/
theorem C13_restart_emits_what_no_restart_emits (c : Mint.Store) (h : Mint.Inv c) (bal : Canine.Mint.State) :
    (Mint.beginBlock (Mint.initGenesis (Mint.blank c) (Mint.exportGenesis c)) bal).2 = (Mint.beginBlock c bal).2 :=
  Mint.beginBlock_roundtrip c h bal

def nextEmission (c : Mint.Store) : Int := nextMint ((Mint.lastOf c (c.height + 1)).getD c.params.tokensPerBlock) c.params.mintDecrease

/-- When the last block recorded an emission
`m ≥ 0` and the decrease parameter is non-negative, the block after the restart emits at most `m`
and at least `0`. -/
theorem C13_emission_across_restart_nonincreasing (c : Mint.Store) (h : Mint.Inv c) (m : Int)
    (hlast : Mint.lastOf c (c.height + 1) = some m) (hm : 0 ≤ m) (hd : 0 ≤ c.params.mintDecrease) :
    let c' := Mint.initGenesis (Mint.blank c) (Mint.exportGenesis c)
    nextEmission c' = nextEmission c ∧ 0 ≤ nextEmission c' ∧ nextEmission c' ≤ m := by
  have e1 : (Mint.initGenesis (Mint.blank c) (Mint.exportGenesis c)).height = c.height := Mint.height_roundtrip c
  have e2 : (Mint.initGenesis (Mint.blank c) (Mint.exportGenesis c)).params = c.params := Mint.params_roundtrip c
  have e3 := Mint.lastOf_roundtrip c h
  have heq : nextEmission (Mint.initGenesis (Mint.blank c) (Mint.exportGenesis c)) = nextEmission c := by
    unfold nextEmission
    rw [e1, e2, e3]
  refine ⟨heq, ?_, ?_⟩
  · rw [heq]; exact C13_next_nonneg _ _
  · rw [heq]; unfold nextEmission; rw [hlast]; exact C13_next_le_prev m _ hm hd

/-- a store at height 9 holding the records of heights 8 and 9; the example below shows the
hypotheses `hlast`, `hm`, `hd` hold of it (`Mint.Inv exStore` is not shown) -/
def exStore : Mint.Store :=
  { params := { tokensPerBlock := 4200000, mintDecrease := 6, stakerRatio := 80, devGrantsRatio := 8, providerRatio := 12 },
    minted := [(Mint.mintedKey 8, { height := 8, minted := 4199990, denom := "ujkl" }),
               (Mint.mintedKey 9, { height := 9, minted := 4199989, denom := "ujkl" })],
    height := 9 }

example : Mint.lastOf exStore (exStore.height + 1) = some 4199989 ∧ (0 : Int) ≤ 4199989 ∧ 0 ≤ exStore.params.mintDecrease := by
  decide +kernel

end Canine.Genesis
