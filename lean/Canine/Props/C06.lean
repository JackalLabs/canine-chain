/-
C06 — State transitions are deterministic across nodes.

The models are functions, so determinism of the modelled transitions is by construction; what
needs an argument are the places where the Go code touches an unordered or process-local source.
Regenerated facts: every such site found in the consensus packages by the scanner is on
the reviewed allow-list below, each with the reason it cannot influence state.
The one map drained on a consensus path (`sizeTracker`) is drained through a sort, and the
sorted sequence of payouts is the same for every iteration order of the map.
-/
import Canine.Generated.NondetFacts
import Canine.Storage.Reward
import Canine.Proofs.Page
namespace Canine

open Generated

/-- reviewed sites: (file, function, kind, expression) and why each is harmless -/
def nondetAllow : List (NondetSite × String) := [
  (⟨"x/jklmint/abci.go", "BeginBlocker", "wallclock", "time.Now"⟩, "telemetry only (ModuleMeasureSince); the value never reaches state"),
  (⟨"x/storage/abci.go", "BeginBlocker", "wallclock", "time.Now"⟩, "telemetry only (ModuleMeasureSince); the value never reaches state"),
  (⟨"x/storage/keeper/grpc_query_pay_info.go", "Keeper.PaymentInfo", "hostzone", "time.UnixMicro"⟩, "query path only (the placeholder returned for an account without a plan): an instant, no calendar arithmetic on it, never written to state"),
  (⟨"x/storage/keeper/msg_server_attest.go", "Keeper.RequestAttestation", "rand", "github.com/tendermint/tendermint/libs/rand.Seed"⟩, "seeds the global generator with the block height; the form members come from GetActiveProviders' own generator"),
  (⟨"x/storage/keeper/providers.go", "Keeper.GetActiveProviders", "rand", "github.com/tendermint/tendermint/libs/rand.NewRand"⟩, "fresh generator re-seeded with the block height before use: same draws on every node"),
  (⟨"x/storage/keeper/providers.go", "Keeper.GetRandomizedProviders", "rand", "github.com/tendermint/tendermint/libs/rand.NewRand"⟩, "fresh generator re-seeded with the block height before use (query path)"),
  (⟨"x/storage/keeper/rewards.go", "providerList", "range-map", "*sizeTracker ; ordered by slices.Sort"⟩, "keys are collected and sorted by their natural (total, antisymmetric) order before any payment (C06_payout_order_independent); any other ordering call, e.g. a SortFunc on a key that can tie, changes this fact"),
  (⟨"x/storage/types/file_deal.go", "*UnifiedFile.ResetChunkWithProof", "rand", "github.com/tendermint/tendermint/libs/rand.NewRand"⟩, "fresh generator re-seeded with block gas + height before the draw"),
  (⟨"x/storage/types/file_deal.go", "*UnifiedFile.ResetChunk", "rand", "github.com/tendermint/tendermint/libs/rand.NewRand"⟩, "fresh generator re-seeded with block gas + height before the draw")]

/-- List inclusion only.  Trusted: that the scanner (`scan/main.go`: syntactic site kinds, over the
non-test, non-generated files of `x/`, `wasmbinding/` and `types/` that `skipFile` lets through)
misses no source of nondeterminism, and the reason strings of `nondetAllow`, which nothing checks. -/
theorem C06_nondet_sites_allowlisted :
    nondetSites.all (fun s => (nondetAllow.map (·.1)).contains s) = true := by decide +kernel

namespace Storage

/-- Whatever order Go's map iteration hands over the credited provers (any
permutation of the same entries, one entry per prover), `providerList`'s sort produces the same
sequence — so the payments are made in the same order with the same amounts on every node. -/
theorem C06_payout_order_independent (t1 t2 : Tracker) (hperm : List.Perm t1 t2)
    (hnd : (AMap.keys t1).Nodup) : sortedProvers t1 = sortedProvers t2 :=
  Query.sortByKey_eq_of_perm hperm hnd

theorem C06_payout_fold_order_independent (t1 t2 : Tracker) (hperm : List.Perm t1 t2)
    (hnd : (AMap.keys t1).Nodup) (s : State) (total : Int) (coins : Coins) :
    (sortedProvers t1).foldlM (fun st pw => payProver st total coins pw.1 pw.2) s =
    (sortedProvers t2).foldlM (fun st pw => payProver st total coins pw.1 pw.2) s := by
  rw [C06_payout_order_independent t1 t2 hperm hnd]

/-- non-vacuity: two orders of the same two entries drain identically -/
example : sortedProvers [("b", 2), ("a", 1)] = sortedProvers [("a", 1), ("b", 2)] :=
  C06_payout_order_independent _ _ (List.Perm.swap _ _ _) (by decide)

end Storage
end Canine
