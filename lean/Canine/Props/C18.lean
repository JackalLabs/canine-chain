/-
C18 — An inbox lists exactly the notifications sent to it, not blocked and not deleted.
-/
import Canine.Proofs.Notif
import Canine.Proofs.Basic
import Canine.Query.Notif
import Canine.Generated.KeyFacts
namespace Canine.Notif

/-- The listing of an address is exactly the stored notifications addressed to it. -/
theorem C18_inbox_membership (s : State) (hinv : Inv s) (a : String) (n : Notif) :
    n ∈ inbox s a ↔ (notifKey a n.sender n.time, Entry.notif n) ∈ s.store ∧ n.to = a := by
  unfold inbox
  simp only [List.mem_map, List.mem_filter]
  constructor
  · rintro ⟨⟨k, e⟩, ⟨hm, hc⟩, rfl⟩
    rcases hinv.2 k e hm with ⟨n', rfl, rfl⟩ | ⟨o, b, rfl, rfl⟩
    · simp only [notifKey, List.head?_cons, Option.some.injEq, Seg.s.injEq, Bool.and_eq_true,
        decide_eq_true_eq] at hc
      obtain ⟨⟨rfl, -⟩, -⟩ := hc
      exact ⟨hm, rfl⟩
    · simp [blockKey, isNotificationKey] at hc
  · rintro ⟨hm, rfl⟩
    exact ⟨(_, _), ⟨hm, by simp [notifKey, isNotificationKey]⟩, rfl⟩

theorem C18_step_preserves_inv (s s' : State) (now : Int) (op : Op) (hinv : Inv s)
    (hstep : step s now op = some s') : Inv s' :=
  step_preserves_inv s s' now op hinv hstep

/-- a failed message changes nothing (`stepT`) -/
def run (s : State) : List (Int × Op) → State
  | [] => s
  | (now, op) :: rest => run (stepT s now op) rest

/-- The store invariant holds along every history from a state that has it, the empty store
(`C18_inv_empty`) in particular. -/
theorem C18_inv_along_histories (ops : List (Int × Op)) : ∀ s, Inv s → Inv (run s ops) :=
  run_inv (fun _ => rfl) (fun _ _ _ => rfl) (fun s p s' h hs => C18_step_preserves_inv s s' p.1 p.2 h hs) ops

theorem C18_inv_empty : Inv { store := [] } :=
  ⟨AMap.wf_nil, fun _ _ h => nomatch h⟩

/-! What each store operation of the handlers does to every inbox. -/

theorem inbox_set_notif {s : State} (hinv : Inv s) (n₀ : Notif)
    (hfree : ∀ e, (notifKey n₀.to n₀.sender n₀.time, e) ∉ s.store) (a : String) (n : Notif) :
    n ∈ inbox { s with store := AMap.set s.store (notifKey n₀.to n₀.sender n₀.time) (.notif n₀) } a ↔
      n ∈ inbox s a ∨ (a = n₀.to ∧ n = n₀) := by
  rw [C18_inbox_membership _ (inv_set_notif s hinv n₀), C18_inbox_membership s hinv]
  show _ ∈ AMap.set _ _ _ ∧ _ ↔ _
  rw [AMap.mem_set_iff hinv.1]
  constructor
  · rintro ⟨he | ⟨hm, _⟩, hto⟩
    · cases (Prod.mk.inj he).2
      exact .inr ⟨hto.symm, rfl⟩
    · exact .inl ⟨hm, hto⟩
  · rintro (⟨hm, hto⟩ | ⟨rfl, rfl⟩)
    · exact ⟨.inr ⟨hm, fun hk => hfree _ ((show notifKey _ _ _ = notifKey _ _ _ from hk) ▸ hm)⟩, hto⟩
    · exact ⟨.inl rfl, rfl⟩

theorem inbox_erase {s : State} (hinv : Inv s) (k : Key) (a : String) (n : Notif) :
    n ∈ inbox { s with store := AMap.erase s.store k } a ↔ n ∈ inbox s a ∧ notifKey a n.sender n.time ≠ k := by
  rw [C18_inbox_membership _ (inv_erase s hinv k), C18_inbox_membership s hinv]
  show _ ∈ AMap.erase _ _ ∧ _ ↔ _
  rw [AMap.mem_erase_iff, and_right_comm]

theorem inbox_set_block {s : State} (hinv : Inv s) (o b a : String) (n : Notif) :
    n ∈ inbox { s with store := AMap.set s.store (blockKey o b) (.block o b) } a ↔ n ∈ inbox s a := by
  rw [C18_inbox_membership _ (inv_set_block s hinv o b), C18_inbox_membership s hinv]
  show _ ∈ AMap.set _ _ _ ∧ _ ↔ _
  rw [AMap.mem_set_iff hinv.1]
  simp [notifKey, blockKey]

/-- A successful send adds exactly the one notification, with the sender, time and contents
given, to the inbox of the address the target resolved to — and nothing to any other inbox. -/
theorem C18_create_delivers_exactly_one (s s' : State) (now : Int) (c raw : String)
    (r : Option String) (ct p : String) (j : Bool) (hinv : Inv s)
    (hstep : step s now (.create c raw r ct p j) = some s') :
    ∃ to, r = some to ∧ j = true ∧ isBlocked s to c = false ∧
      (∀ n, n ∈ inbox s to → ¬ (n.sender = c ∧ n.time = now)) ∧
      ∀ a n, n ∈ inbox s' a ↔
        n ∈ inbox s a ∨ (a = to ∧ n = { to := to, sender := c, time := now, contents := ct, priv := p }) := by
  obtain ⟨hj, to, rfl, hb, hex, rfl⟩ := create_eq_some.mp hstep
  -- the handler refused to overwrite: the key it wrote held no record
  have hfree (e : Entry) : (notifKey to c now, e) ∉ s.store := fun hm => by
    rw [AMap.contains, (AMap.mem_iff_get_of_wf hinv.1 _ e).mp hm] at hex
    cases hex
  refine ⟨to, rfl, hj, hb, ?_, inbox_set_notif hinv { to := to, sender := c, time := now, contents := ct, priv := p } hfree⟩
  rintro n hn ⟨rfl, rfl⟩
  exact hfree _ ((C18_inbox_membership s hinv to n).mp hn).1

/-- A sender blocked by the recipient at send time cannot deliver. -/
theorem C18_blocked_sender_cannot_deliver (s : State) (now : Int) (c raw to ct p : String) (j : Bool)
    (hb : isBlocked s to c = true) : step s now (.create c raw (some to) ct p j) = none := by
  cases hs : step s now (.create c raw (some to) ct p j) with
  | none => rfl
  | some s' =>
    obtain ⟨-, to', hr, hb', -⟩ := create_eq_some.mp hs
    cases hr
    rw [hb] at hb'; cases hb'

/-- the right-hand key is the one a delete message erases (`From` may hold several segments) -/
theorem notifKey_eq_deleteKey (a sender : String) (time : Int) (c : String) (segs : List String) (t : Int) :
    notifKey a sender time = [Seg.s c] ++ segs.map Seg.s ++ [Seg.n t] ↔ a = c ∧ segs = [sender] ∧ time = t := by
  match segs with
  | [] => simp [notifKey]
  | [x] => simp [notifKey, eq_comm]
  | _ :: _ :: _ => simp [notifKey]

/-- Deleting touches only the signer's own inbox, and there only the entry with the given sender
and time. -/
theorem C18_delete_only_own_entry (s : State) (now : Int) (c : String) (segs : List String) (t : Int)
    (hinv : Inv s) (a : String) (n : Notif) :
    n ∈ inbox (stepT s now (.delete c segs t)) a ↔
      n ∈ inbox s a ∧ ¬ (a = c ∧ segs = [n.sender] ∧ n.time = t) :=
  (inbox_erase hinv _ a n).trans (and_congr_right fun _ => not_congr (notifKey_eq_deleteKey ..))

/-- Blocking never makes an entry appear in (or disappear from) any inbox. -/
theorem C18_block_changes_no_inbox (s s' : State) (now : Int) (c : String)
    (ts : List (String × Option String)) (hinv : Inv s) (hstep : step s now (.block c ts) = some s') :
    ∀ a n, n ∈ inbox s' a ↔ n ∈ inbox s a :=
  (blockAll_induction (P := fun s₁ => Inv s₁ ∧ ∀ a n, n ∈ inbox s₁ a ↔ n ∈ inbox s a) c
    (fun s₁ b h => ⟨inv_set_block s₁ h.1 c b, fun a n => (inbox_set_block h.1 c b a n).trans (h.2 a n)⟩)
    ts s s' hstep ⟨hinv, fun _ _ => Iff.rfl⟩).2

/-- Regression witness: without the key-shape filter (`inboxUnfixed`) a block entry is
listed as a phantom notification (time 0) in the blocker's inbox; with it the inbox is empty. -/
def blockedState : State := { store := [(blockKey "alice" "bob", .block "alice" "bob")] }
example : inboxUnfixed blockedState "alice" = [{ to := "alice", sender := "bob", time := 0, contents := "", priv := "" }] := by decide +kernel
example : inbox blockedState "alice" = [] := by decide +kernel
/-- non-vacuity: the invariant holds of that state and a send from carol succeeds while bob's fails -/
example : Inv blockedState :=
  inv_set_block { store := [] } C18_inv_empty "alice" "bob"
example : (step blockedState 7 (.create "carol" "alice" (some "alice") "{}" "" true)).isSome = true := by decide +kernel
example : step blockedState 7 (.create "bob" "alice" (some "alice") "{}" "" true) = none := by decide +kernel

/-- The inbox theorems tell notification entries (`to/from/time`) from block entries (`owner/blocked`) by the shape of their keys under the shared prefix.  The fingerprints of the key constructors of
x/notifications/types/key*.go the model assumes; `Generated.keyFns_notifications` is recomputed from the source on every
run (the declarations are listed in Generated/KeyFacts.lean). -/
def C18_expectedKeys : List (String × String) := [
  ("x/notifications/types/key_notifications.go:var _…", "9f4fce2c5ae85adc"),
  ("x/notifications/types/key_notifications.go:const NotificationsKeyPrefix…", "f955c359fa031f3b"),
  ("x/notifications/types/key_notifications.go:NotificationsKey", "7ea6422a0221239d"),
  ("x/notifications/types/key_notifications.go:BlockKey", "1ae5b03dec6f8eae"),
  ("x/notifications/types/key_notifications.go:IsNotificationKey", "8c06cab11b0d19b9"),
  ("x/notifications/types/keys.go:const ModuleName…", "7ed3769dc4c890d8"),
  ("x/notifications/types/keys.go:KeyPrefix", "caccc65e7667915d")]

theorem C18_store_keys_as_modelled : Generated.keyFns_notifications = C18_expectedKeys := rfl

/-! ### The inbox as clients read it (`AllNotificationsByAddress`) -/

theorem windows_cover {α : Type} (limit : Nat) :
    ∀ (n : Nat) (all : List α), all.length ≤ n * limit →
      (List.range n).flatMap (fun k => (all.drop (k * limit)).take limit) = all := by
  intro n
  induction n with
  | zero => intro all h; simp at h; simp [h]
  | succ n ih =>
    intro all h
    rw [List.range_succ_eq_map, List.flatMap_cons, List.flatMap_map]
    simp only [Nat.zero_mul, List.drop_zero]
    have hrest : (List.range n).flatMap (fun k => (all.drop ((k + 1) * limit)).take limit) = all.drop limit := by
      have := ih (all.drop limit) (by simp only [List.length_drop]; rw [Nat.succ_mul] at h; omega)
      rw [← this]
      congr 1
      funext k
      rw [List.drop_drop, Nat.succ_mul, Nat.add_comm]
    exact (congrArg _ hrest).trans (List.take_append_drop ..)

/-- With a positive limit and an offset that is a multiple of it, `AllNotificationsByAddress` returns
that window of the inbox (the notification-shaped entries under `to/`, in key order), counts what
it returns and hands out no `NextKey`.  The handler turns the offset into a page number
(`query.ParsePagination`) and back into `(page - 1) * limit`, so any other offset is rounded down to
a multiple of the limit. -/
theorem C18_inbox_query_page (s : State) (to : String) (k limit : Nat) (hl : 0 < limit)
    (hk : k * limit ≤ (Query.inboxRaw s to).length) :
    Query.run s (.byAddress to (some { offset := k * limit, limit := limit })) =
      .notifs (((Query.inboxRaw s to).drop (k * limit)).take limit) none
        (((Query.inboxRaw s to).drop (k * limit)).take limit).length := by
  have hne : ¬ limit = 0 := by omega
  simp only [Query.run, hne, if_false, Nat.mul_div_cancel _ hl]
  have : ¬ k * limit > (Query.inboxRaw s to).length := by omega
  simp [this]

/-- The pages with offsets 0, limit, 2·limit, … glued together are exactly `Query.inboxRaw`, the
listing the query cuts its pages from, each entry once.  (`Query.inboxRaw` is computed from the raw
store entries; it is not related to `inbox` here.) -/
theorem C18_inbox_query_pages_cover_the_inbox (s : State) (to : String) (limit n : Nat) (hl : 0 < limit)
    (hn : (Query.inboxRaw s to).length ≤ n * limit) :
    (List.range n).flatMap (fun k => ((Query.inboxRaw s to).drop (k * limit)).take limit) = Query.inboxRaw s to :=
  windows_cover limit n _ hn

end Canine.Notif
