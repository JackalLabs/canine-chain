/-
C11 — Every message is authenticated as its creator and touches only its own resources.

Regenerated facts: obligations over `Canine.Generated.msgFacts`, the table of every
registered message type of the custom modules extracted from the running app on every check.
Frame theorems over the module models — provider records, oracle feeds, inboxes and block
lists, primary names, storage-file deletion, and the wasm binding's guard.
-/
import Canine.Generated.MsgFacts
import Canine.Storage.Wasm
import Canine.Oracle.Model
import Canine.Proofs.Notif
import Canine.Proofs.Rns
import Canine.Proofs.Handlers
namespace Canine

open Generated in
/-- every registered message has exactly one signer, the account in its `Creator` field -/
theorem C11_signers_are_creator :
    msgFacts.all (fun m => m.nSigners == 1 && m.signerFields == ["Creator"]) = true := by decide +kernel

open Generated in
/-- every registered message routes to a handler -/
theorem C11_registered_and_routable : msgFacts.all (fun m => m.routable) = true := by decide +kernel

def utf8Nat (s : String) : Nat := s.toByteArray.data.toList.foldl (fun a b => a * 256 + b.toNat) 0

open Generated in
/-- the table is not empty and has no duplicate type URLs (one row per message type) -/
theorem C11_table_nonempty_nodup :
    (0 < msgFacts.length ∧ (msgFacts.map (·.url)).Nodup) :=
  -- the URLs are compared as numbers: comparing the strings pairwise makes the kernel encode both at every comparison
  ⟨by decide, nodup_of_map utf8Nat (by decide +kernel)⟩

namespace Storage

/-- What a provider-management message does to the provider store: it writes or erases the
creator's record, which (registration apart) was there. -/
theorem providerOp_shape {s s' : State} {h now : Int} {op : Op} (hop : op.isProviderOp = true)
    (hstep : step s h now op = some s') :
    ((∃ c ip kb ts iv, op = .initProvider c ip kb ts iv) ∨ (AMap.get s.providers op.creator).isSome) ∧
    ((∃ p', s'.providers = AMap.set s.providers op.creator p') ∨
      s'.providers = AMap.erase s.providers op.creator) := by
  cases hs : op.isSetter
  · cases op with
    | initProvider =>
      obtain ⟨-, -, -, e⟩ := initProvider_spec hstep
      exact ⟨.inl ⟨_, _, _, _, _, rfl⟩, .inl ⟨_, congrArg State.providers e⟩⟩
    | shutdownProvider =>
      obtain ⟨hc, ⟨_, -, -, -, -, e⟩ | ⟨-, e⟩⟩ := shutdownProvider_spec hstep <;>
        exact ⟨.inr hc, .inr (congrArg State.providers e)⟩
    | _ => cases hop <;> cases hs
  · obtain ⟨p, p', hp, -, -, e⟩ := step_setter hs hstep
    exact ⟨.inr (by rw [hp]; rfl), .inl ⟨p', congrArg State.providers e⟩⟩

/-- Provider-management messages touch no provider record but the creator's. -/
theorem C11_provider_ops_touch_only_creator_record (s s' : State) (h now : Int) (op : Op)
    (hop : op.isProviderOp = true) (hstep : step s h now op = some s') (a : String)
    (ha : a ≠ op.creator) : AMap.get s'.providers a = AMap.get s.providers a := by
  rcases (providerOp_shape hop hstep).2 with ⟨p', e⟩ | e
  · rw [e]
    exact AMap.get_set_ne ha
  · rw [e]
    exact AMap.get_erase_ne ha

/-- Every provider-management message but `initProvider` (the setters and `shutdownProvider`) succeeds
only if the creator has a provider record. -/
theorem C11_setters_require_own_record (s s' : State) (h now : Int) (op : Op)
    (hop : op.isProviderOp = true) (hnot : ∀ c ip kb ts iv, op ≠ .initProvider c ip kb ts iv)
    (hstep : step s h now op = some s') : (AMap.get s.providers op.creator).isSome :=
  (providerOp_shape hop hstep).1.resolve_left fun ⟨c, ip, kb, ts, iv, e⟩ => hnot c ip kb ts iv e

/-- Deleting a storage file removes only files whose owner field is the signer: the key that
`deleteFile` removes has the creator as its owner component. -/
theorem C11_storage_delete_only_own_files (s : State) (c m : String) (st : Int) (k : FKey)
    (hk : k.2.1 ≠ c) :
    AMap.get (deleteFile s c m st).files k = AMap.get s.files k ∧
    AMap.get (deleteFile s c m st).files2 k = AMap.get s.files2 k := by
  have hne : (m, c, st) ≠ k := fun e => hk (e ▸ rfl)
  unfold deleteFile
  cases hg : AMap.get s.files (m, c, st) with
  | none => rw [removeFile_none hg]; exact ⟨rfl, rfl⟩
  | some f => rw [removeFile_some hg]; exact ⟨AMap.get_erase_other hne, AMap.get_erase_other hne⟩

/-- A contract can post storage files only in its own name. -/
theorem C11_wasm_post_requires_creator_eq_contract (s s' : State) (h now : Int) (contract : String)
    (op : Op) (hstep : wasmPostFile s h now contract op = some s') :
    op.creator = contract ∧ step s h now op = some s' ∧ ∃ m fs mp ex pt n nv jp gi ga,
      op = .postFile contract m fs mp ex pt n nv jp gi ga := by
  unfold wasmPostFile at hstep
  split at hstep
  · rename_i c m fs mp ex pt n nv jp gi ga
    split at hstep
    · rename_i hc
      subst hc
      exact ⟨rfl, hstep, m, fs, mp, ex, pt, n, nv, jp, gi, ga, rfl⟩
    · simp at hstep
  · simp at hstep

end Storage

namespace Oracle

/-- Only the account recorded as a feed's owner (its creator) can change it; an update touches
that one feed. -/
theorem C11_update_feed_requires_feed_owner (s s' : State) (now : Int) (c n d : String)
    (hstep : step s now (.updateFeed c n d) = some s') :
    ∃ f, AMap.get s.feeds n = some f ∧ f.owner = c ∧
      AMap.get s'.feeds n = some { f with data := d, lastUpdate := now } ∧
      (∀ k, k ≠ n → AMap.get s'.feeds k = AMap.get s.feeds k) ∧ s'.bank = s.bank := by
  simp only [step, bind, Option.bind_eq_some_iff, req_eq_some] at hstep
  obtain ⟨f, hf, _, ho, hs⟩ := hstep
  simp only [Option.some.injEq] at hs; subst hs
  exact ⟨f, hf, ho, by simp, fun k hk => AMap.get_set_ne hk, rfl⟩

/-- A creation never overwrites an existing feed and records the signer as owner. -/
theorem C11_create_feed_never_overwrites (s s' : State) (now : Int) (c n : String)
    (hstep : step s now (.createFeed c n) = some s') :
    AMap.get s.feeds n = none ∧ (∃ f, AMap.get s'.feeds n = some f ∧ f.owner = c) ∧
      ∀ k, k ≠ n → AMap.get s'.feeds k = AMap.get s.feeds k := by
  simp only [step, bind, Option.bind_eq_some_iff, req_eq_some] at hstep
  obtain ⟨_, hnew, b1, _, dep, _, _, _, b2, _, hs⟩ := hstep
  simp only [Option.some.injEq] at hs; subst hs
  exact ⟨AMap.contains_eq_false.mp hnew, ⟨_, AMap.get_set_self _ _ _, rfl⟩,
    fun k hk => AMap.get_set_ne hk⟩

/-- one step keeps a feed's owner (hence every history does) -/
theorem C11_feed_owner_is_stable (s s' : State) (now : Int) (op : Op) (n : String) (f : Feed)
    (hf : AMap.get s.feeds n = some f) (hstep : step s now op = some s') :
    ∃ f', AMap.get s'.feeds n = some f' ∧ f'.owner = f.owner := by
  cases op with
  | createFeed c n2 =>
    obtain ⟨hnone, _, hother⟩ := C11_create_feed_never_overwrites s s' now c n2 hstep
    have : n ≠ n2 := by intro e; subst e; rw [hnone] at hf; cases hf
    exact ⟨f, by rw [hother n this]; exact hf, rfl⟩
  | updateFeed c n2 d =>
    obtain ⟨f2, hf2, _, hnew, hother, _⟩ := C11_update_feed_requires_feed_owner s s' now c n2 d hstep
    by_cases e : n = n2
    · subst e; rw [hf] at hf2; cases hf2
      exact ⟨_, hnew, rfl⟩
    · exact ⟨f, by rw [hother n e]; exact hf, rfl⟩

end Oracle

namespace Notif

/-- Deleting a notification removes only a key that starts with the signer's own address. -/
theorem C11_delete_only_own_inbox (s : State) (c : String) (segs : List String) (t : Int) (k : Key)
    (hk : k.head? ≠ some (.s c)) :
    AMap.get (delete s c segs t).store k = AMap.get s.store k :=
  AMap.get_erase_other (fun e => hk (by rw [← e]; rfl))

/-- Blocking writes only keys that start with the signer's own address. -/
theorem C11_block_only_own_list (c : String) : ∀ (ts : List (String × Option String)) (s s' : State),
    blockAll s c ts = some s' → ∀ k : Key, k.head? ≠ some (.s c) →
      AMap.get s'.store k = AMap.get s.store k := fun ts s s' h k hk =>
  blockAll_induction (P := fun s₁ => AMap.get s₁.store k = AMap.get s.store k) c
    (fun s₁ a h₁ => (AMap.get_set_other (fun e => hk (by rw [← e]; rfl))).trans h₁) ts s s' h rfl

end Notif

namespace Rns

/-- MakePrimary sets only the signer's own primary-name record. -/
theorem C11_make_primary_only_own (s s' : State) (h : Int) (c raw n : String)
    (hstep : step s h (.makePrimary c raw n) = some s') (a : String) (ha : a ≠ c) :
    AMap.get s'.primary a = AMap.get s.primary a ∧ s'.names = s.names ∧ s'.bank = s.bank := by
  obtain ⟨cc, -, hd⟩ := step_delivered hstep
  cases hd with
  | makePrimary => exact ⟨AMap.get_set_ne ha, rfl, rfl⟩

end Rns
end Canine
