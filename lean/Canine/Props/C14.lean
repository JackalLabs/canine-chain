/-
C14 — Attestations and reports act only on a quorum of the providers named on the form: a
signature counts only for the signer's own entry, an outsider's signature does nothing, repeating
a signature does nothing, the effect (refreshing the prover's `lastProven` / removing the prover)
happens only when at least `attestMinToPass` distinct named providers have signed, and a consumed
form is gone.  Forms name exactly the providers selected for them, never the prover itself.
-/
import Canine.Proofs.Forms
namespace Canine.Storage

/-- `signForm`: the signer is "listed" iff it is named; exactly the signer's entries become
complete, everything else (length, names, order, other flags) is untouched; the count is the
number of complete entries afterwards. -/
theorem C14_signForm_spec (atts : List (String × Bool)) (signer : String)
    (atts' : List (String × Bool)) (listed : Bool) (count : Int)
    (h : signForm atts signer = (atts', listed, count)) :
    (listed = true ↔ ∃ p ∈ atts, p.1 = signer) ∧
    atts'.length = atts.length ∧
    atts'.map (·.1) = atts.map (·.1) ∧
    (∀ (i : Nat) (hi : i < atts.length) (hi' : i < atts'.length),
        (atts[i].1 = signer → atts'[i] = (signer, true)) ∧
        (atts[i].1 ≠ signer → atts'[i] = atts[i])) ∧
    count = ((atts'.filter (·.2)).length : Int) := by
  rw [signForm_eq] at h
  simp only [Prod.mk.injEq] at h
  obtain ⟨rfl, rfl, rfl⟩ := h
  refine ⟨any_named atts signer, signed_length atts signer, signed_names atts signer, ?_, rfl⟩
  intro i hi hi'
  rw [signed_getElem atts signer i hi']
  exact ⟨fun e => by rw [if_pos e, e], fun e => by rw [if_neg e]⟩

/-! ### A signature by somebody not named on the form does nothing -/

theorem C14_foreign_signature_no_effect (s : State) (h : Int) (c prover m o : String) (st : Int)
    (hforeign : ∀ f, AMap.get s.attests (prover, (m, o, st)) = some f → ¬ ∃ p ∈ f.attestations, p.1 = c) :
    attest s h c prover m o st = s := by
  rcases attest_cases s h c prover m o st with ⟨e, -⟩ | ⟨form, hg, hl, -⟩ | ⟨form, _, _, hg, hl, -⟩
  · exact e
  · exact absurd ((any_named _ _).mp hl) (hforeign form hg)
  · exact absurd ((any_named _ _).mp hl) (hforeign form hg)

theorem C14_foreign_report_no_effect (s : State) (c prover m o : String) (st : Int)
    (hforeign : ∀ f, AMap.get s.reports (prover, (m, o, st)) = some f → ¬ ∃ p ∈ f.attestations, p.1 = c) :
    report s c prover m o st = none := by
  cases hr : report s c prover m o st with
  | none => rfl
  | some s' =>
    obtain ⟨form, hg, hl, -⟩ := report_cases hr
    exact absurd ((any_named _ _).mp hl) (hforeign form hg)

/-- A successful form request: the file exists, the prover is on its list with an existing
record and is a registered provider, no form was open for that (prover, file), enough providers
were eligible; the new form names exactly `chosen`, in that order, every entry incomplete, and
nothing else in the form store changes. -/
theorem C14_form_members (forms forms' : AMap PKey Form) (s : State) (prover m o : String) (st : Int)
    (eligibleCount : Int) (chosen : List String)
    (hreq : requestForm forms s prover m o st eligibleCount chosen = some forms') :
    ∃ f, AMap.get s.files (m, o, st) = some f ∧
      (prover, f.key) ∈ f.proofs ∧ (∃ p, AMap.get s.proofs (prover, f.key) = some p) ∧
      (∃ pv, AMap.get s.providers prover = some pv) ∧
      AMap.get forms (prover, f.key) = none ∧
      s.params.attestFormSize ≤ eligibleCount ∧
      (∃ form, AMap.get forms' (prover, f.key) = some form ∧
        form.prover = prover ∧ (form.merkle, form.owner, form.start) = (m, o, st) ∧
        form.attestations.map (·.1) = chosen ∧
        (∀ p ∈ form.attestations, p.2 = false) ∧
        form.attestations.length = chosen.length) ∧
      (∀ k, k ≠ (prover, f.key) → AMap.get forms' k = AMap.get forms k) := by
  obtain ⟨f, hf, hl, hp, hnone, hprov, hec, rfl⟩ := requestForm_spec hreq
  refine ⟨f, hf, hl, Option.isSome_iff_exists.mp hp, Option.isSome_iff_exists.mp hprov, hnone, hec,
    ⟨_, AMap.get_set_self _ _ _, rfl, rfl, unsigned_names chosen, unsigned_incomplete chosen, by simp⟩,
    fun k hk => AMap.get_set_ne hk⟩

/-- on states satisfying the C17 invariant the file a request reads has the requested key, so the
form is stored under `(prover, (m, o, st))`, the key the signature messages address -/
theorem C14_form_key (s : State) (hinv : IndexInv s) (m o : String) (st : Int) (f : File)
    (hf : AMap.get s.files (m, o, st) = some f) : f.key = (m, o, st) := (hinv.ok _ _ hf).1

theorem C14_form_members_distinct (forms forms' : AMap PKey Form) (s : State) (prover m o : String)
    (st : Int) (eligibleCount : Int) (chosen : List String) (hch : chosen.Nodup)
    (hreq : requestForm forms s prover m o st eligibleCount chosen = some forms')
    (hforms : ∀ key f, AMap.get forms key = some f → (f.attestations.map (·.1)).Nodup) :
    ∀ key f, AMap.get forms' key = some f → (f.attestations.map (·.1)).Nodup :=
  requestForm_forall hreq (fun _ _ => (unsigned_names chosen).symm ▸ hch) hforms

/-- The providers a form may name, for a prover whose registered address is `proverIp`
(`hostOf` = the URL-host parser, returning (domain, tld)): providers in store order that have at
least one proof record, whose ip parses, and whose (domain, tld) differs from the prover's own:
`GetActiveProviders` over `GetAllActiveProviders` (x/storage/keeper/providers.go) before the shuffle.
`hostOf` is a parameter: `url.Parse` and the split of the host name are not modelled.  When the
prover's ip yields no pair the filter is the empty pair; Go does that for a host with fewer than two
labels but returns nil (nobody eligible) on a `url.Parse` error — the model folds both into
`hostOf = none`. -/
def eligible (hostOf : String → Option (String × String)) (s : State) (proverIp : String) : List String :=
  let filt := (hostOf proverIp).getD ("", "")
  (s.providers.filter (fun kv =>
      (AMap.keys s.proofs).any (fun pk => pk.1 = kv.1) &&
      (match hostOf kv.2.ip with
       | some dt => decide (dt ≠ filt)
       | none => false))).map (·.1)

theorem mem_eligible {hostOf : String → Option (String × String)} {s : State} {proverIp a : String} :
    a ∈ eligible hostOf s proverIp ↔
      ∃ pv, (a, pv) ∈ s.providers ∧ (∃ pk ∈ AMap.keys s.proofs, pk.1 = a) ∧
        ∃ dt, hostOf pv.ip = some dt ∧ dt ≠ (hostOf proverIp).getD ("", "") := by
  simp only [eligible, List.mem_map, List.mem_filter, Bool.and_eq_true, List.any_eq_true, decide_eq_true_eq]
  constructor
  · rintro ⟨⟨a', pv⟩, ⟨hm, hrec, hhost⟩, rfl⟩
    refine ⟨pv, hm, hrec, ?_⟩
    simp only at hhost
    cases hh : hostOf pv.ip with
    | none => simp [hh] at hhost
    | some dt => simp only [hh, decide_eq_true_eq] at hhost; exact ⟨dt, rfl, hhost⟩
  · rintro ⟨pv, hm, hrec, dt, hh, hne⟩
    refine ⟨(a, pv), ⟨hm, hrec, ?_⟩, rfl⟩
    simp only [hh, decide_eq_true_eq]; exact hne

theorem C14_same_host_never_eligible (hostOf : String → Option (String × String)) (s : State)
    (proverIp a : String) (pv : Provider) (hwf : AMap.WF s.providers)
    (hp : AMap.get s.providers a = some pv) (hsame : hostOf pv.ip = hostOf proverIp) :
    a ∉ eligible hostOf s proverIp := by
  intro h
  obtain ⟨pv', hm, -, dt, hh, hne⟩ := mem_eligible.mp h
  have := AMap.get_of_mem_wf hwf hm
  rw [hp] at this; cases this
  rw [← hsame, hh] at hne; exact hne rfl

/-- The prover's own provider record is read by the same
parser — either its ip does not parse (skipped) or it yields exactly the filter pair (skipped). -/
theorem C14_form_never_names_its_prover (hostOf : String → Option (String × String)) (s : State)
    (prover : String) (pv : Provider) (hwf : AMap.WF s.providers)
    (hp : AMap.get s.providers prover = some pv) :
    prover ∉ eligible hostOf s pv.ip :=
  C14_same_host_never_eligible hostOf s pv.ip prover pv hwf hp rfl

theorem C14_eligible_are_registered_and_active (hostOf : String → Option (String × String)) (s : State)
    (proverIp a : String) (h : a ∈ eligible hostOf s proverIp) :
    a ∈ AMap.keys s.providers ∧ (∃ pk p, AMap.get s.proofs pk = some p ∧ pk.1 = a) ∧
      ∃ pv dt, (a, pv) ∈ s.providers ∧ hostOf pv.ip = some dt ∧ dt ≠ (hostOf proverIp).getD ("", "") := by
  obtain ⟨pv, hm, ⟨pk, hpk, e⟩, dt, hh, hne⟩ := mem_eligible.mp h
  obtain ⟨p, hp⟩ := AMap.get_some_of_mem_keys hpk
  exact ⟨List.mem_map.mpr ⟨(a, pv), hm, rfl⟩, ⟨pk, p, hp, e⟩, pv, dt, hm, hh, hne⟩

theorem C14_eligible_nodup (hostOf : String → Option (String × String)) (s : State) (proverIp : String)
    (hwf : AMap.WF s.providers) : (eligible hostOf s proverIp).Nodup :=
  List.Nodup.sublist (List.Sublist.map _ List.filter_sublist) hwf

/-- the `eligible` list is duplicate-free, so any prefix of any permutation of it (what the chain
hands to `requestForm`) satisfies `chosenNodup` -/
theorem C14_selection_from_eligible_nodup (hostOf : String → Option (String × String)) (s : State)
    (proverIp : String) (hwf : AMap.WF s.providers) (chosen shuffled : List String)
    (hperm : shuffled.Perm (eligible hostOf s proverIp)) (hpre : chosen <+: shuffled) : chosen.Nodup :=
  ((hperm.nodup_iff).mpr (C14_eligible_nodup hostOf s proverIp hwf)).sublist hpre.sublist

/-! ### The effect needs a quorum of distinct named providers -/

/-- at least `n` distinct providers named on the form are complete in `atts` -/
def QuorumOfDistinct (atts : List (String × Bool)) (n : Int) : Prop :=
  ∃ L : List String, L.Nodup ∧ (∀ a ∈ L, (a, true) ∈ atts) ∧ n ≤ (L.length : Int)

/-- with distinct names, the handler's count *is* the number of distinct complete providers -/
theorem quorum_of_count {atts : List (String × Bool)} {n : Int} (hnd : (atts.map (·.1)).Nodup)
    (h : n ≤ completeCount atts) : QuorumOfDistinct atts n :=
  ⟨completeNames atts, completeNames_nodup hnd, fun _ ha => mem_completeNames.mp ha,
    by rw [completeNames_length]; exact h⟩

/-- …and conversely a quorum of distinct complete names forces the count (no Nodup needed) -/
theorem count_of_quorum {atts : List (String × Bool)} {n : Int} (h : QuorumOfDistinct atts n) :
    n ≤ completeCount atts := by
  obtain ⟨L, hnd, hall, hlen⟩ := h
  have := hnd.length_le_of_subset (l₂ := completeNames atts) fun a ha => mem_completeNames.mpr (hall a ha)
  rw [← completeNames_length]; omega

/-- what both handlers establish before they act: the signer is named and the count after its
signature reaches `n`, a count of distinct providers when the names are distinct -/
theorem quorum_reached {atts : List (String × Bool)} {c : String} {n : Int}
    (hl : atts.any (fun p => p.1 = c) = true) (hq : ¬ completeCount (signed atts c) < n) :
    (∃ p ∈ atts, p.1 = c) ∧ n ≤ completeCount (signed atts c) ∧
      ((atts.map (·.1)).Nodup → QuorumOfDistinct (signed atts c) n) :=
  ⟨(any_named _ _).mp hl, by omega,
    fun hnd => quorum_of_count (by rw [signed_names]; exact hnd) (by omega)⟩

/-- If an `attest` message changed any proof record (in
particular refreshed a `lastProven`) or made the form disappear, then the form existed, the signer
is named on it, and after its signature at least `attestMinToPass` entries are complete — which,
the names on a form being distinct, means at least that many *distinct named providers*. -/
theorem C14_effect_requires_quorum (s : State) (h : Int) (c prover m o : String) (st : Int)
    (heff : (attest s h c prover m o st).proofs ≠ s.proofs ∨
      ((AMap.get s.attests (prover, (m, o, st))).isSome = true ∧
        AMap.get (attest s h c prover m o st).attests (prover, (m, o, st)) = none)) :
    ∃ f, AMap.get s.attests (prover, (m, o, st)) = some f ∧
      (∃ p ∈ f.attestations, p.1 = c) ∧
      s.params.attestMinToPass ≤ completeCount (signed f.attestations c) ∧
      ((f.attestations.map (·.1)).Nodup →
        QuorumOfDistinct (signed f.attestations c) s.params.attestMinToPass) := by
  rcases attest_cases s h c prover m o st with ⟨e, -⟩ | ⟨form, hg, hl, hq, e⟩ | ⟨form, f, p, hg, hl, hq, -⟩
  · rw [e] at heff
    rcases heff with h1 | ⟨h1, h2⟩
    · exact absurd rfl h1
    · rw [h2] at h1; cases h1
  · rw [e] at heff
    rcases heff with h1 | ⟨-, h2⟩
    · exact absurd rfl h1
    · simp only [AMap.get_set_self] at h2; cases h2
  · exact ⟨form, hg, quorum_reached hl hq⟩

/-- the exact effect when the quorum is reached: only the record of the form's prover for that
file changes, and only in `lastProven` -/
theorem C14_attest_effect_is_only_lastProven (s : State) (h : Int) (c prover m o : String) (st : Int)
    (pk : PKey) : 
    AMap.get (attest s h c prover m o st).proofs pk = AMap.get s.proofs pk ∨
    ∃ p, AMap.get s.proofs pk = some p ∧
      AMap.get (attest s h c prover m o st).proofs pk = some { p with lastProven := h } ∧
      ∃ form f, AMap.get s.attests (prover, (m, o, st)) = some form ∧
        AMap.get s.files (form.merkle, form.owner, form.start) = some f ∧ pk = (form.prover, f.key) := by
  rcases (attest_frame s h c prover m o st).2.2.2.2 with ⟨e, -⟩ | ⟨form, f, p, hg, hf, -, hp, e, -⟩
  · exact Or.inl (by rw [e])
  · rw [e]
    by_cases hk : (form.prover, f.key) = pk
    · subst hk
      exact Or.inr ⟨p, hp, AMap.get_set_self _ _ _, form, f, hg, hf, rfl⟩
    · exact Or.inl (AMap.get_set_other hk)

/-- Across one `attest` message signed by `c`, on every
form that survives: names and order are unchanged, complete entries stay complete, and an entry
that turns from incomplete to complete is named `c` and sits on the form the message addresses. -/
theorem C14_only_own_entry_flips (s : State) (h : Int) (c prover m o : String) (st : Int)
    (key : PKey) (f f' : Form) (hf : AMap.get s.attests key = some f)
    (hf' : AMap.get (attest s h c prover m o st).attests key = some f') :
    f'.attestations.map (·.1) = f.attestations.map (·.1) ∧
    (f'.prover, f'.merkle, f'.owner, f'.start) = (f.prover, f.merkle, f.owner, f.start) ∧
    (key ≠ (prover, (m, o, st)) → f' = f) ∧
    ∀ (i : Nat) (hi : i < f.attestations.length) (hi' : i < f'.attestations.length),
      f'.attestations[i].1 = f.attestations[i].1 ∧
      (f.attestations[i].2 = true → f'.attestations[i].2 = true) ∧
      (f.attestations[i].2 = false → f'.attestations[i].2 = true →
        f.attestations[i].1 = c ∧ key = (prover, (m, o, st))) :=
  (attest_formsStep s h c prover m o st).own_entry_flips hf hf'

theorem C14_report_success_requires_named (s s' : State) (c prover m o : String) (st : Int)
    (hrep : report s c prover m o st = some s') :
    ∃ f, AMap.get s.reports (prover, (m, o, st)) = some f ∧ ∃ p ∈ f.attestations, p.1 = c := by
  obtain ⟨form, hg, hl, -⟩ := report_cases hrep
  exact ⟨form, hg, (any_named _ _).mp hl⟩

/-- If a `report` message touched a file, a proof record (it
removes the prover from the file's list and erases its record) or consumed the form, then the form
existed, the signer is named on it, and after its signature at least `attestMinToPass` entries —
distinct named providers when the names on the form are distinct — are complete. -/
theorem C14_report_requires_quorum (s s' : State) (c prover m o : String) (st : Int)
    (hrep : report s c prover m o st = some s')
    (heff : s'.files ≠ s.files ∨ s'.files2 ≠ s.files2 ∨ s'.proofs ≠ s.proofs ∨
      AMap.get s'.reports (prover, (m, o, st)) = none) :
    ∃ f, AMap.get s.reports (prover, (m, o, st)) = some f ∧
      (∃ p ∈ f.attestations, p.1 = c) ∧
      s.params.attestMinToPass ≤ completeCount (signed f.attestations c) ∧
      ((f.attestations.map (·.1)).Nodup →
        QuorumOfDistinct (signed f.attestations c) s.params.attestMinToPass) := by
  obtain ⟨form, hg, hl, ⟨-, e⟩ | ⟨hq, -⟩⟩ := report_cases hrep
  · subst e
    rcases heff with h1 | h1 | h1 | h1
    · exact absurd rfl h1
    · exact absurd rfl h1
    · exact absurd rfl h1
    · simp only [AMap.get_set_self] at h1; cases h1
  · exact ⟨form, hg, quorum_reached hl hq⟩

/-- what a report that reached the quorum does: the form is consumed, the prover leaves the list
of the addressed file and its record is erased; below the quorum only the form changes -/
theorem C14_report_effect (s s' : State) (c prover m o : String) (st : Int)
    (hrep : report s c prover m o st = some s') :
    (s'.files = s.files ∧ s'.files2 = s.files2 ∧ s'.proofs = s.proofs ∧
      ∃ form, AMap.get s.reports (prover, (m, o, st)) = some form ∧
        s'.reports = AMap.set s.reports (prover, (m, o, st)) { form with attestations := signed form.attestations c }) ∨
    (s'.reports = AMap.erase s.reports (prover, (m, o, st)) ∧
      ∃ f, AMap.get s.files (m, o, st) = some f ∧
        s' = (removeProver { s with reports := AMap.erase s.reports (prover, (m, o, st)) } f (prover, f.key)).1) := by
  obtain ⟨form, hg, -, ⟨-, e⟩ | ⟨-, f, hf, e⟩⟩ := report_cases hrep
  · subst e; exact Or.inl ⟨rfl, rfl, rfl, form, hg, rfl⟩
  · subst e; exact Or.inr ⟨(sameForms_removeProver _ f _).reports, f, hf, rfl⟩

theorem C14_report_only_own_entry_flips (s s' : State) (c prover m o : String) (st : Int)
    (hrep : report s c prover m o st = some s')
    (key : PKey) (f f' : Form) (hf : AMap.get s.reports key = some f)
    (hf' : AMap.get s'.reports key = some f') :
    f'.attestations.map (·.1) = f.attestations.map (·.1) ∧
    (f'.prover, f'.merkle, f'.owner, f'.start) = (f.prover, f.merkle, f.owner, f.start) ∧
    (key ≠ (prover, (m, o, st)) → f' = f) ∧
    ∀ (i : Nat) (hi : i < f.attestations.length) (hi' : i < f'.attestations.length),
      f'.attestations[i].1 = f.attestations[i].1 ∧
      (f.attestations[i].2 = true → f'.attestations[i].2 = true) ∧
      (f.attestations[i].2 = false → f'.attestations[i].2 = true →
        f.attestations[i].1 = c ∧ key = (prover, (m, o, st))) :=
  (report_formsStep hrep).own_entry_flips hf hf'

/-- `attest` is idempotent in the signer: whatever the first signature did (nothing, marking the
entry, or consuming the form), the same signer signing again — at any height — leaves the
state exactly as it was after the first. -/
theorem C14_repeated_signature_idempotent (s : State) (h h' : Int) (c prover m o : String) (st : Int) :
    attest (attest s h c prover m o st) h' c prover m o st = attest s h c prover m o st := by
  rcases attest_cases s h c prover m o st with
    ⟨e, hn | ⟨form, hg, hl | ⟨hq, hf | ⟨f, hf, hm | hp⟩⟩⟩⟩ | ⟨form, hg, hl, hq, e⟩ | ⟨form, f, p, hg, hl, hq, hf, hm, hp, e⟩
  · rw [e, attest_eq, hn]
  · rw [e, attest_eq, hg]; simp only [hl, Bool.false_eq_true, if_false]
  · rw [e, attest_eq, hg]; simp only [hq, hf, if_false]; split <;> rfl
  · rw [e, attest_eq, hg]; simp only [hq, hf, hm, if_false]; split <;> rfl
  · rw [e, attest_eq, hg]; simp only [hq, hf, hp, if_false]; split <;> (try split) <;> rfl
  · rw [e, attest_eq]
    simp only [AMap.get_set_self, any_signed, signed_signed, hl, hq, if_true, AMap.set_set]
  · rw [e, attest_eq]
    simp only [AMap.get_erase_self]

/-- in particular the count does not move when the same signer signs again -/
theorem C14_repeated_signature_count_unchanged (atts : List (String × Bool)) (c : String) :
    completeCount (signed (signed atts c) c) = completeCount (signed atts c) := by
  rw [signed_signed]

/-- a repeated report signature below the quorum (the form is still there) changes nothing -/
theorem C14_repeated_report_idempotent (s s1 : State) (c prover m o : String) (st : Int)
    (hrep : report s c prover m o st = some s1)
    (hkept : AMap.get s1.reports (prover, (m, o, st)) ≠ none) :
    report s1 c prover m o st = some s1 := by
  obtain ⟨form, hg, hl, ⟨hq, e⟩ | ⟨hq, f, hf, e⟩⟩ := report_cases hrep
  · subst e
    rw [report_eq]
    simp only [AMap.get_set_self, any_signed, signed_signed, hl, hq, if_true, AMap.set_set]
  · rw [e, (sameForms_removeProver _ f _).reports] at hkept
    exact absurd (AMap.get_erase_self _ _) hkept

/-- When the quorum is reached (and the file, the listing and the record exist) the prover's
`lastProven` is refreshed to the current height, no other record changes, the form is deleted —
and from then on nobody's signature for that (prover, file) has any effect. -/
theorem C14_consumed_form_gone (s : State) (h : Int) (c prover m o : String) (st : Int)
    (form : Form) (f : File) (p : Proof)
    (hg : AMap.get s.attests (prover, (m, o, st)) = some form)
    (hl : ∃ x ∈ form.attestations, x.1 = c)
    (hq : s.params.attestMinToPass ≤ completeCount (signed form.attestations c))
    (hf : AMap.get s.files (form.merkle, form.owner, form.start) = some f)
    (hm : (form.prover, f.key) ∈ f.proofs)
    (hp : AMap.get s.proofs (form.prover, f.key) = some p) :
    AMap.get (attest s h c prover m o st).attests (prover, (m, o, st)) = none ∧
    AMap.get (attest s h c prover m o st).proofs (form.prover, f.key) = some { p with lastProven := h } ∧
    (∀ k, k ≠ (form.prover, f.key) →
      AMap.get (attest s h c prover m o st).proofs k = AMap.get s.proofs k) ∧
    (attest s h c prover m o st).files = s.files ∧
    ∀ (h' : Int) (c' : String),
      attest (attest s h c prover m o st) h' c' prover m o st = attest s h c prover m o st := by
  have hl' := (any_named _ _).mpr hl
  have hq' : ¬ completeCount (signed form.attestations c) < s.params.attestMinToPass := by omega
  have e : attest s h c prover m o st =
      { s with proofs := AMap.set s.proofs (form.prover, f.key) { p with lastProven := h },
               attests := AMap.erase s.attests (prover, (m, o, st)) } := by
    rw [attest_eq, hg]; simp only [hl', hq', hf, hm, hp, if_true, if_false]
  rw [e]
  exact ⟨AMap.get_erase_self _ _, AMap.get_set_self _ _ _,
    fun k hk => AMap.get_set_ne hk, rfl,
    fun h' c' => by rw [attest_eq]; simp only [AMap.get_erase_self]⟩

/-- the same for reports: after the quorum the form is gone and every further report on it fails -/
theorem C14_consumed_report_gone (s s' : State) (c prover m o : String) (st : Int)
    (hrep : report s c prover m o st = some s')
    (form : Form) (hg : AMap.get s.reports (prover, (m, o, st)) = some form)
    (hq : s.params.attestMinToPass ≤ completeCount (signed form.attestations c)) :
    AMap.get s'.reports (prover, (m, o, st)) = none ∧
    ∀ c', report s' c' prover m o st = none := by
  obtain ⟨form', hg', -, ⟨hq', -⟩ | ⟨-, f, -, e⟩⟩ := report_cases hrep
  · rw [hg] at hg'; cases hg'; omega
  · have : AMap.get s'.reports (prover, (m, o, st)) = none := by
      rw [e, (sameForms_removeProver _ f _).reports]; exact AMap.get_erase_self _ _
    exact ⟨this, fun c' => by rw [report_eq, this]⟩

/-- the names on every open form are pairwise distinct -/
structure FormsInv (s : State) : Prop where
  attests : ∀ key f, AMap.get s.attests key = some f → (f.attestations.map (·.1)).Nodup
  reports : ∀ key f, AMap.get s.reports key = some f → (f.attestations.map (·.1)).Nodup

/-- the oracle input of a form request (the chain's shuffled selection) has no duplicates: assumed
of the histories below; `C14_selection_from_eligible_nodup` reduces it to `WF s.providers` -/
def Op.chosenNodup : Op → Prop
  | .requestAttest _ _ _ _ _ ch => ch.Nodup
  | .requestReport _ _ _ _ _ _ ch => ch.Nodup
  | _ => True

theorem FormsInv.ofSame {s s' : State} (h : FormsInv s) (e : SameForms s s') : FormsInv s' :=
  ⟨by rw [e.attests]; exact h.attests, by rw [e.reports]; exact h.reports⟩

/-- signing keeps the names distinct; consuming a form keeps the others -/
theorem C14_FormsInv_step (s s' : State) (h now : Int) (op : Op)
    (hstep : step s h now op = some s') (hch : op.chosenNodup) (hinv : FormsInv s) : FormsInv s' := by
  have keep : ∀ (c : String) (form : Form), (form.attestations.map (·.1)).Nodup →
      ((signed form.attestations c).map (·.1)).Nodup := fun c form hn => by rw [signed_names]; exact hn
  obtain ⟨hA, hR⟩ := forms_step hstep
    (fun c m o st ec ch _ e _ => by subst e; exact (unsigned_names ch).symm ▸ hch)
    (fun c p m o st ec ch _ e _ => by subst e; exact (unsigned_names ch).symm ▸ hch)
    (fun c _ _ _ _ form _ => keep c form) (fun c _ _ _ _ form _ => keep c form)
    hinv.attests hinv.reports
  exact ⟨hA, hR⟩

def Ev.chosenNodup : Ev → Prop
  | .msg _ _ op => op.chosenNodup
  | .block _ _ => True

theorem formsInv_along_histories_from (evs : List Ev) (s : State) (hch : ∀ ev ∈ evs, ev.chosenNodup)
    (hinv : FormsInv s) : FormsInv (runEvs s evs) :=
  runEvs_inv FormsInv evs
    (fun s h now op s' hev hinv hs => C14_FormsInv_step s s' h now op hs (hch _ hev) hinv)
    (fun _ _ _ _ hinv hb => hinv.ofSame (sameForms_beginBlock hb)) s hinv

/-- **Along every history** (messages and reward blocks) starting without forms, as long as the
selections handed to the form requests are duplicate-free, every open form has distinct names —
so the handler's count is the number of distinct named providers that signed. -/
theorem C14_FormsInv_along_histories (evs : List Ev) (s0 : State)
    (h0 : s0.attests = [] ∧ s0.reports = []) (hch : ∀ ev ∈ evs, ev.chosenNodup) :
    FormsInv (runEvs s0 evs) :=
  formsInv_along_histories_from evs s0 hch ⟨no_forms h0.1, no_forms h0.2⟩

def SignedAttest (evs : List Ev) (a : String) (key : PKey) : Prop :=
  ∃ h now, Ev.msg h now (.attest a key.1 key.2.1 key.2.2.1 key.2.2.2) ∈ evs

def SignedReport (evs : List Ev) (a : String) (key : PKey) : Prop :=
  ∃ h now, Ev.msg h now (.report a key.1 key.2.1 key.2.2.1 key.2.2.2) ∈ evs

/-- every complete entry of every open form is backed by a signature message of that provider -/
structure Provenance (evs : List Ev) (s : State) : Prop where
  attests : ∀ key f a, AMap.get s.attests key = some f → (a, true) ∈ f.attestations →
    SignedAttest evs a key
  reports : ∀ key f a, AMap.get s.reports key = some f → (a, true) ∈ f.attestations →
    SignedReport evs a key

theorem Provenance.ofSame {evs : List Ev} {s s' : State} (h : Provenance evs s) (e : SameForms s s') :
    Provenance evs s' :=
  ⟨by rw [e.attests]; exact h.attests, by rw [e.reports]; exact h.reports⟩

/-- a message of the history keeps the provenance: a fresh form has no complete entry, and an entry
completed by a signature message is the signer's own -/
theorem provenance_step {evs : List Ev} {s s' : State} {h now : Int} {op : Op}
    (hev : Ev.msg h now op ∈ evs) (hstep : step s h now op = some s') (hp : Provenance evs s) :
    Provenance evs s' := by
  obtain ⟨hA, hR⟩ := forms_step hstep
    (PA := fun k f => ∀ a, (a, true) ∈ f.attestations → SignedAttest evs a k)
    (PR := fun k f => ∀ a, (a, true) ∈ f.attestations → SignedReport evs a k)
    (fun _ _ _ _ _ ch _ _ _ a ha => nomatch unsigned_incomplete ch (a, true) ha)
    (fun _ _ _ _ _ _ ch _ _ _ a ha => nomatch unsigned_incomplete ch (a, true) ha)
    (fun c p m o st form e ih a ha => (mem_signed_true ha).elim (ih a)
      fun ea => ⟨h, now, by rw [ea, ← e]; exact hev⟩)
    (fun c p m o st form e ih a ha => (mem_signed_true ha).elim (ih a)
      fun ea => ⟨h, now, by rw [ea, ← e]; exact hev⟩)
    (fun k f hf a => hp.attests k f a hf) (fun k f hf a => hp.reports k f a hf)
  exact ⟨fun k f a hf => hA k f hf a, fun k f a hf => hR k f hf a⟩

/-- provenance with respect to a history `all` is kept along any part `evs` of it -/
theorem provenance_along_histories_from {all : List Ev} (evs : List Ev) (s : State)
    (hsub : ∀ ev ∈ evs, ev ∈ all) (hp : Provenance all s) : Provenance all (runEvs s evs) :=
  runEvs_inv (Provenance all) evs (fun _ _ _ _ _ hev hp hs => provenance_step (hsub _ hev) hs hp)
    (fun _ _ _ _ hp hb => hp.ofSame (sameForms_beginBlock hb)) s hp

/-- **Every complete entry was set by its own provider's signature.**  Along any history of
messages and reward blocks from a state without forms: whenever an open attestation form shows
provider `a` as complete, the history contains an `attest` message *signed by `a`* for exactly
that (prover, file); likewise for report forms.  Nobody can complete somebody else's entry, and
no block-time code path completes any. -/
theorem C14_complete_entries_were_signed (evs : List Ev) (s0 : State)
    (h0 : s0.attests = [] ∧ s0.reports = []) :
    (∀ key f a, AMap.get (runEvs s0 evs).attests key = some f → (a, true) ∈ f.attestations →
      SignedAttest evs a key) ∧
    (∀ key f a, AMap.get (runEvs s0 evs).reports key = some f → (a, true) ∈ f.attestations →
      SignedReport evs a key) := by
  have := provenance_along_histories_from evs s0 (fun _ h => h)
    ⟨fun k f a => no_forms h0.1 (P := fun k f => _ → SignedAttest evs a k) k f,
     fun k f a => no_forms h0.2 (P := fun k f => _ → SignedReport evs a k) k f⟩
  exact ⟨this.attests, this.reports⟩

/-! ### Forms sit under the key they describe, so a signature only ever touches the addressed prover -/

/-- every open form describes the (prover, file) it is stored under -/
structure FormsKeyed (s : State) : Prop where
  attests : ∀ key f, AMap.get s.attests key = some f →
    f.prover = key.1 ∧ (f.merkle, f.owner, f.start) = key.2
  reports : ∀ key f, AMap.get s.reports key = some f →
    f.prover = key.1 ∧ (f.merkle, f.owner, f.start) = key.2

theorem FormsKeyed.ofSame {s s' : State} (h : FormsKeyed s) (e : SameForms s s') : FormsKeyed s' :=
  ⟨by rw [e.attests]; exact h.attests, by rw [e.reports]; exact h.reports⟩

/-- a request files the form under the key of the stored file, which (index invariant) is the
requested key; signing does not touch the fields the key is made of -/
theorem C14_FormsKeyed_step (s s' : State) (h now : Int) (op : Op)
    (hstep : step s h now op = some s') (hidx : IndexInv s) (hinv : FormsKeyed s) : FormsKeyed s' := by
  obtain ⟨hA, hR⟩ := forms_step hstep
    (PA := fun k f => f.prover = k.1 ∧ (f.merkle, f.owner, f.start) = k.2)
    (PR := fun k f => f.prover = k.1 ∧ (f.merkle, f.owner, f.start) = k.2)
    (fun _ _ _ _ _ _ f _ hf => ⟨rfl, ((hidx.ok _ _ hf).1).symm⟩)
    (fun _ _ _ _ _ _ _ f _ hf => ⟨rfl, ((hidx.ok _ _ hf).1).symm⟩)
    (fun _ _ _ _ _ _ _ ih => ih) (fun _ _ _ _ _ _ _ ih => ih) hinv.attests hinv.reports
  exact ⟨hA, hR⟩

theorem formsKeyed_along_histories_from (evs : List Ev) (s : State) (hidx : IndexInv s)
    (hk : FormsKeyed s) : IndexInv (runEvs s evs) ∧ FormsKeyed (runEvs s evs) :=
  runEvs_inv (fun s => IndexInv s ∧ FormsKeyed s) evs
    (fun s h now op s' _ hp hs => ⟨indexInv_step hs hp.1, C14_FormsKeyed_step s s' h now op hs hp.1 hp.2⟩)
    (fun _ _ _ _ hp hb => ⟨indexInv_beginBlock hb hp.1, hp.2.ofSame (sameForms_beginBlock hb)⟩) s
    ⟨hidx, hk⟩

/-- along every history from the empty state both the index invariant and "forms sit under their
own key" hold -/
theorem C14_FormsKeyed_along_histories (evs : List Ev) (s0 : State) (hidx : emptyIdx s0)
    (h0 : s0.attests = [] ∧ s0.reports = []) :
    IndexInv (runEvs s0 evs) ∧ FormsKeyed (runEvs s0 evs) :=
  formsKeyed_along_histories_from evs s0 (indexInv_empty hidx) ⟨no_forms h0.1, no_forms h0.2⟩

/-- On a reachable state (index invariant + forms under their own key) an `attest` message for
`(prover, merkle, owner, start)` leaves every proof record other than that prover's record for that
file unchanged. -/
theorem C14_attest_touches_only_addressed_prover (s : State) (hidx : IndexInv s) (hk : FormsKeyed s)
    (h : Int) (c prover m o : String) (st : Int) (pk : PKey) (hne : pk ≠ (prover, (m, o, st))) :
    AMap.get (attest s h c prover m o st).proofs pk = AMap.get s.proofs pk := by
  rcases C14_attest_effect_is_only_lastProven s h c prover m o st pk with e | ⟨p, -, -, form, f, hg, hf, e⟩
  · exact e
  · obtain ⟨e1, e2⟩ := hk.attests _ _ hg
    exact absurd (by rw [e, e1, (hidx.ok _ _ hf).1, e2]) hne

/-- the same for reports: only the addressed prover can be removed, and only from the addressed file -/
theorem C14_report_touches_only_addressed_prover (s s' : State) (hidx : IndexInv s)
    (c prover m o : String) (st : Int) (hrep : report s c prover m o st = some s') :
    (∀ k, k ≠ (m, o, st) → AMap.get s'.files k = AMap.get s.files k) ∧
    (∀ pk, pk ≠ (prover, (m, o, st)) → AMap.get s'.proofs pk = AMap.get s.proofs pk) ∧
    (∀ f', AMap.get s'.files (m, o, st) = some f' → ∃ f, AMap.get s.files (m, o, st) = some f ∧
        ∀ x ∈ f.proofs, x ≠ (prover, (m, o, st)) → x ∈ f'.proofs) := by
  rcases report_frame hrep with ⟨e1, -, e2, -⟩ | ⟨f, hf, e⟩
  · rw [e1, e2]
    exact ⟨fun _ _ => rfl, fun _ _ => rfl, fun f' hf' => ⟨f', hf', fun x hx _ => hx⟩⟩
  · have hkf : f.key = (m, o, st) := (hidx.ok _ _ hf).1
    rw [e, removeProver_eq]
    rw [← hkf] at hf ⊢
    split
    · refine ⟨fun k hk' => AMap.get_set_ne hk',
        fun pk hpk => AMap.get_erase_ne hpk, fun f' hf' => ⟨f, hf, fun x hx hxne => ?_⟩⟩
      rw [← Option.some.inj ((AMap.get_set_self _ _ _).symm.trans hf')]
      exact List.mem_filter.mpr ⟨hx, decide_eq_true hxne⟩
    · exact ⟨fun _ _ => rfl, fun _ _ => rfl, fun f' hf' => ⟨f', hf', fun x hx _ => hx⟩⟩

/-- why distinct names matter: with a duplicated name a single signer would fill two entries, so
the raw count (2) would overstate the number of distinct providers (1) -/
example : completeCount (signed [("a", false), ("a", false)] "a") = 2 := by decide +kernel
example : ¬ QuorumOfDistinct (signed [("a", false), ("a", false)] "a") 2 := by
  rintro ⟨L, hnd, hall, hlen⟩
  have : L.length ≤ ["a"].length := hnd.length_le_of_subset fun x hx => by
    have := hall x hx
    simp [signed] at this
    simp [this]
  simp at this; omega

/-! ### Non-vacuity -/
namespace C14Ex

def params : Params :=
  { proofWindow := 50, checkWindow := 100, chunkSize := 1024, pricePerTbPerMonth := 8,
    collateralPrice := 1000, attestFormSize := 3, attestMinToPass := 2, referralCommission := 25,
    polRatio := 40 }

def key : FKey := ("aa", "owner", 7)
def pk : PKey := ("p1", key)

def file : File :=
  { merkle := "aa", owner := "owner", start := 7, expires := 0, fileSize := 100, proofInterval := 50,
    proofType := 0, proofs := [pk], maxProofs := 3, note := "{}" }

def prov (a ip : String) : Provider :=
  { address := a, ip := ip, totalspace := "1000", burned := some 0, creator := a, keybase := "", claimers := [] }

/-- one file proven by `p1`; providers p1, a, b, c (a, b, c hold records elsewhere) -/
def base : State :=
  { files := [(key, file)], files2 := [(key, file)],
    proofs := [(pk, { prover := "p1", merkle := "aa", owner := "owner", start := 7, lastProven := 8, chunkToProve := 0 }),
               (("a", ("bb", "o2", 3)), { prover := "a", merkle := "bb", owner := "o2", start := 3, lastProven := 8, chunkToProve := 0 }),
               (("b", ("bb", "o2", 3)), { prover := "b", merkle := "bb", owner := "o2", start := 3, lastProven := 8, chunkToProve := 0 }),
               (("c", ("bb", "o2", 3)), { prover := "c", merkle := "bb", owner := "o2", start := 3, lastProven := 8, chunkToProve := 0 })],
    providers := [("p1", prov "p1" "https://one.example.com"), ("a", prov "a" "https://node.alpha.org"),
                  ("b", prov "b" "https://node.beta.net"), ("c", prov "c" "https://node.gamma.io"),
                  ("d", prov "d" "https://two.example.com"), ("e", prov "e" "not a url")],
    payinfo := [], collateral := [], gauges := [], attests := [], reports := [],
    bank := [], params := params, moduleAcc := "storage", collateralAcc := "collateral",
    polAcc := "pol", feeAcc := "fee", blocked := [] }

/-- the hypothesis of `C14_foreign_signature_no_effect` and `C14_foreign_report_no_effect`, in a form that evaluates -/
theorem notNamed {F : AMap PKey Form} {k : PKey} {c : String}
    (h : (AMap.get F k).all (fun f => !f.attestations.any (fun p => p.1 = c)) = true) :
    ∀ f, AMap.get F k = some f → ¬ ∃ p ∈ f.attestations, p.1 = c := by
  intro f hf
  rw [hf] at h
  rw [← any_named]
  intro e
  rw [Option.all, e] at h
  cases h

theorem some_getD {α : Type} {o : Option α} {d : α} (h : o.isSome = true) : o = some (o.getD d) := by
  cases o with
  | none => cases h
  | some a => rfl

/-- the request creates the 3-name form (attestations and reports alike) -/
def s0 : State := (step base 20 0 (.requestAttest "p1" "aa" "owner" 7 3 ["a", "b", "c"])).getD base
def r0 : State := (step base 20 0 (.requestReport "x" "p1" "aa" "owner" 7 3 ["a", "b", "c"])).getD base

example : AMap.get s0.attests pk =
    some { prover := "p1", merkle := "aa", owner := "owner", start := 7,
           attestations := [("a", false), ("b", false), ("c", false)] } := by decide +kernel

/-- the hypotheses of `C14_form_members` hold for it -/
example : (requestForm base.attests base "p1" "aa" "owner" 7 3 ["a", "b", "c"]).isSome = true := by decide +kernel

def s1 : State := attest s0 21 "a" "p1" "aa" "owner" 7
def s2 : State := attest s1 22 "b" "p1" "aa" "owner" 7

/-- first signature: the form stays (one complete entry), `lastProven` is untouched -/
example : AMap.get s1.attests pk =
    some { prover := "p1", merkle := "aa", owner := "owner", start := 7,
           attestations := [("a", true), ("b", false), ("c", false)] } := by decide +kernel
example : (AMap.get s1.proofs pk).map (·.lastProven) = some 8 := by decide +kernel

/-- second signature, by another named provider: quorum — `lastProven` refreshed, form deleted -/
example : AMap.get s2.attests pk = none := by decide +kernel
example : (AMap.get s2.proofs pk).map (·.lastProven) = some 22 := by decide +kernel

/-- so the hypothesis of `C14_effect_requires_quorum` is satisfiable (second signature) … -/
example : (attest s1 22 "b" "p1" "aa" "owner" 7).proofs ≠ s1.proofs := by decide +kernel
/-- … and its conclusion is not trivially true: the first signature is below the quorum -/
example : ¬ (s0.params.attestMinToPass ≤ completeCount (signed [("a", false), ("b", false), ("c", false)] "a")) := by
  decide +kernel

/-- an outsider's signature changes nothing, neither before nor after the first signature -/
example : attest s0 21 "z" "p1" "aa" "owner" 7 = s0 :=
  C14_foreign_signature_no_effect s0 21 "z" "p1" "aa" "owner" 7 (notNamed (by decide +kernel))
example : attest s1 22 "z" "p1" "aa" "owner" 7 = s1 :=
  C14_foreign_signature_no_effect s1 22 "z" "p1" "aa" "owner" 7 (notNamed (by decide +kernel))
/-- the same signer again: nothing -/
example : attest s1 22 "a" "p1" "aa" "owner" 7 = s1 :=
  C14_repeated_signature_idempotent s0 21 22 "a" "p1" "aa" "owner" 7
/-- the form is consumed: a third named provider's signature has no effect any more -/
example : attest s2 23 "c" "p1" "aa" "owner" 7 = s2 :=
  C14_foreign_signature_no_effect s2 23 "c" "p1" "aa" "owner" 7 (notNamed (by decide +kernel))

/-- reports: first signature keeps prover and form, the second removes the prover and its record;
an outsider's report fails; after consumption every report fails -/
def r1 : State := (report r0 "a" "p1" "aa" "owner" 7).getD r0
def r2 : State := (report r1 "b" "p1" "aa" "owner" 7).getD r1
example : (report r0 "a" "p1" "aa" "owner" 7).isSome = true := by decide +kernel
example : (AMap.get r1.files key).map (·.proofs) = some [pk] := by decide +kernel
example : (report r1 "b" "p1" "aa" "owner" 7).isSome = true := by decide +kernel
example : (AMap.get r2.files key).map (·.proofs) = some [] ∧ AMap.get r2.proofs pk = none ∧
    AMap.get r2.reports pk = none := by decide +kernel
example : report r0 "z" "p1" "aa" "owner" 7 = none :=
  C14_foreign_report_no_effect r0 "z" "p1" "aa" "owner" 7 (notNamed (by decide +kernel))
example : report r1 "a" "p1" "aa" "owner" 7 = some r1 :=
  C14_repeated_report_idempotent r0 r1 "a" "p1" "aa" "owner" 7 (some_getD (by decide +kernel))
    (by decide +kernel)
example : report r2 "c" "p1" "aa" "owner" 7 = none :=
  C14_foreign_report_no_effect r2 "c" "p1" "aa" "owner" 7 (notNamed (by decide +kernel))

/-- a toy host parser (a table is enough here): "https://x.DOMAIN.TLD" ↦ (DOMAIN, TLD) -/
def hostOf (ip : String) : Option (String × String) :=
  if ip = "https://one.example.com" then some ("example", "com")
  else if ip = "https://two.example.com" then some ("example", "com")
  else if ip = "https://node.alpha.org" then some ("alpha", "org")
  else if ip = "https://node.beta.net" then some ("beta", "net")
  else if ip = "https://node.gamma.io" then some ("gamma", "io")
  else none

/-- eligible for p1 (one.example.com): a, b, c — not p1 itself, not d (same domain), not e
(unparsable), although d and e are registered -/
example : eligible hostOf { base with proofs := base.proofs ++ [(("d", ("bb", "o2", 3)), default), (("e", ("bb", "o2", 3)), default)] }
    "https://one.example.com" = ["a", "b", "c"] := by decide +kernel

/-- hypotheses of `C14_form_never_names_its_prover` -/
example : AMap.WF base.providers ∧ (AMap.get base.providers "p1").isSome = true := by
  unfold AMap.WF; decide +kernel

/-- the two messages behind `s1` as a history for `C14_FormsInv_along_histories` -/
example : FormsInv s1 :=
  C14_FormsInv_along_histories
    [.msg 20 0 (.requestAttest "p1" "aa" "owner" 7 3 ["a", "b", "c"]), .msg 21 0 (.attest "a" "p1" "aa" "owner" 7)]
    base ⟨rfl, rfl⟩ fun ev hev => by
      rcases List.mem_cons.mp hev with rfl | hev
      · exact (by decide : ["a", "b", "c"].Nodup)
      · rw [List.mem_singleton.mp hev]; trivial

end C14Ex

end Canine.Storage
