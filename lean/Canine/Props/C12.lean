/-
C12 — Payment gauges stream linearly and never release more than the pro-rata deposit.

`pullGauge` releases, for a recorded amount `A` of which `W` has already left the gauge account,
`trunc(ratio·A − W)` where `ratio = 1 − left/total` (whole microseconds, 18-decimal `sdk.Dec`).
The theorems are about a single-coin gauge during its life (`InLife`: non-negative Unix times,
`startT ≤ now ≤ endT`, start and end in different whole microseconds; gauges of any length).
The idea: after a step the cumulative withdrawal is exactly `cumulative now = trunc(ratio(now)·A)`,
whatever the earlier reward blocks were, so linearity, monotonicity and the bound by the deposit
are facts about the function `cumulative`.  Regression witnesses:
`C12_unfixed_overwrite_releases_early`, `C12_long_gauge_lags`.
-/
import Canine.Proofs.RewardLoops
import Canine.Generated.PureFns
namespace Canine.Storage

/-- A live single-coin gauge of recorded amount `A` whose account still holds
`A − W` (`0 ≤ W < A` withdrawn so far, `W` not ahead of the schedule): the step computes
`amt = trunc(ratio·A − W)`, which equals `cumulative − W`; it succeeds, moves exactly `amt` from the
gauge account to the module account, and afterwards the cumulative withdrawal `W + amt` is exactly
`cumulative now` — independent of how many reward blocks ran before.
(`A ≤ MaxInt64` is the `Int64()` range check; `g.account ≠ s.moduleAcc` for the ledger statement.) -/
theorem C12_release_formula (s : State) (now : Int) (released : Coins) (g : Gauge) (d : String) (A W : Int)
    (hc : g.coins = [(d, A)]) (hA : 0 ≤ A) (hA64 : A ≤ I64.maxV)
    (hl : InLife g.startT g.endT now)
    (hbal : Bank.bal s.bank g.account d = A - W) (hW0 : 0 ≤ W) (hWA : W < A)
    (hW : W ≤ cumulative g.startT g.endT now A)
    (hacc : g.account ≠ s.moduleAcc) :
    let amt := Dec.trunc (Dec.sub (Dec.mul (ratioAt g.startT g.endT now) (Dec.ofInt A)) (Dec.ofInt W))
    W + amt = cumulative g.startT g.endT now A ∧ 0 ≤ amt ∧ amt ≤ A - W ∧
    ∃ s', pullGauge s now released g
        = .ok (s', if amt = 0 then released else pullGauge.addCoinTo released d amt) ∧
      s' = { s with bank := s'.bank } ∧
      Bank.bal s'.bank g.account d = A - cumulative g.startT g.endT now A ∧
      Bank.bal s'.bank s.moduleAcc d = Bank.bal s.bank s.moduleAcc d + amt := by
  intro amt
  have hamt : amt = cumulative g.startT g.endT now A - W := release_amount A W hA hl hW0 hW
  obtain ⟨c0, c1⟩ := cumulative_range A hA hl
  have hg : gaugeAmt (ratioAt g.startT g.endT now) A (Bank.bal s.bank g.account d) = amt := by
    unfold gaugeAmt; rw [hbal, show A - (A - W) = W by omega]
  clear_value amt
  have hr : I64.inRange amt = true := inRange_of_nonneg (by omega) (Int.le_trans (by omega) hA64)
  obtain ⟨b, hb, hstep⟩ := coinStep_sends (g := g) (rl := released) (c := (d, A)) hg hr (by omega)
    (by rw [hbal]; omega)
  have hbal' := fun a => Bank.bal_send hb a d
  simp only [amt_coinsOf, if_true] at hbal'
  refine ⟨by omega, by omega, by omega, { s with bank := b }, ?_, rfl, ?_, ?_⟩
  · rw [pullGauge_live s now released g hl (accountNonEmpty_of_bal s g d (by rw [hbal]; omega)), hc,
      List.foldlM_cons, hstep]
    rfl
  · rw [hbal' g.account, if_neg hacc.symm, if_pos rfl, hbal]; omega
  · rw [hbal' s.moduleAcc, if_pos rfl, if_neg hacc]; omega

/-- why `W` drops out of `C12_release_formula`: subtracting a whole number commutes with truncation
(non-negative results) -/
theorem C12_trunc_sub_whole (x : Dec) (W : Int) (hW : 0 ≤ W) (h : (Dec.ofInt W).raw ≤ x.raw) :
    Dec.trunc (Dec.sub x (Dec.ofInt W)) = Dec.trunc x - W :=
  Dec.trunc_sub_ofInt x W hW h

/-- With `e` the elapsed and `T` the total whole microseconds, the cumulative
release is within one base unit of `⌊e·A/T⌋`, for every recorded amount `0 ≤ A ≤ 10^18`.
(Side condition: `ratio` is rounded at the 18th decimal — by at most `0.5·10^-18` plus a sliver
from the inner truncated division — and that error times `A` must stay below one unit.) -/
theorem C12_cumulative_is_linear (startT endT now A : Int) (hA : 0 ≤ A) (hA' : A ≤ 1000000000000000000)
    (h : InLife startT endT now) :
    let e := now / 1000 - startT / 1000
    let T := endT / 1000 - startT / 1000
    cumulative startT endT now A ≤ e * A / T + 1 ∧ e * A / T - 1 ≤ cumulative startT endT now A :=
  cumulative_linear A hA (by unfold precision; exact hA') h

/-- `e` and `T` above are what `pullGauge` calls `total − left` and `total` -/
theorem C12_elapsed_total (startT endT now : Int) (h : InLife startT endT now) :
    totalUs startT endT = endT / 1000 - startT / 1000 ∧
    totalUs startT endT - leftUs endT now = now / 1000 - startT / 1000 :=
  ⟨(totalUs_eq h).1, (leftUs_eq h).2.2⟩

/-- A gauge that is on schedule stays safe at every later reward block (per gauge, what the
hypothesis `GaugesSafe` of `C05_beginBlock_never_panics` asks).  Take a gauge of `A` units whose
escrow account holds what is left after a release at `now1` — `A − cumulative now1`, the balance
`C12_release_formula` proves for the state right after that release — and let nothing but the
gauge's own releases have touched the account since.  Then at any later instant `now2` of the
gauge's life the release computation of `pullTokensFromGauges` does not divide by zero, and the
amount it computes is exactly `cumulative now2 − cumulative now1`: non-negative (no
"negative coin amount" panic) and within int64 (no `Int64()` panic). -/
theorem C12_on_schedule_gauge_is_safe_later (startT endT now1 now2 A bal : Int)
    (hA : 0 ≤ A) (hA64 : A ≤ I64.maxV)
    (h1 : InLife startT endT now1) (h2 : InLife startT endT now2) (hle : now1 ≤ now2)
    (hbal : bal = A - cumulative startT endT now1 A) :
    ∃ q, Dec.quo? (Dec.ofInt (Int.tdiv endT 1000 - Int.tdiv now2 1000))
            (Dec.ofInt (Int.tdiv endT 1000 - Int.tdiv startT 1000)) = some q ∧
      Dec.trunc (Dec.sub (Dec.mul (Dec.sub Dec.one q) (Dec.ofInt A)) (Dec.ofInt (A - bal)))
        = cumulative startT endT now2 A - cumulative startT endT now1 A ∧
      0 ≤ cumulative startT endT now2 A - cumulative startT endT now1 A ∧
      I64.inRange (cumulative startT endT now2 A - cumulative startT endT now1 A) = true := by
  obtain ⟨r0, r1⟩ := cumulative_range A hA h1
  obtain ⟨s0, s1⟩ := cumulative_range A hA h2
  have hmono := cumulative_mono A hA h1 h2 hle
  have hq := (ratioAt_raw h2).1
  have hr : ratioAt startT endT now2 = Dec.sub Dec.one ⟨rawShare (totalUs startT endT) (leftUs endT now2)⟩ := by
    unfold ratioAt; rw [hq]; rfl
  refine ⟨_, hq, ?_, by omega, ?_⟩
  · rw [← hr, show A - bal = cumulative startT endT now1 A by omega]
    exact release_amount A _ hA h2 r0 hmono
  · exact inRange_of_nonneg (by omega) (Int.le_trans (by omega) hA64)

theorem C12_monotone (startT endT now1 now2 A : Int) (hA : 0 ≤ A)
    (h1 : InLife startT endT now1) (h2 : InLife startT endT now2) (hle : now1 ≤ now2) :
    cumulative startT endT now1 A ≤ cumulative startT endT now2 A :=
  cumulative_mono A hA h1 h2 hle

/-- the rounding primitives are monotone on non-negatives (`C12_monotone` rests on the same fact for
`chopRoundNat`, through `rawShare_mono`) -/
theorem C12_chopRound_mono (x y : Int) (hx : 0 ≤ x) (h : x ≤ y) : chopRound x ≤ chopRound y :=
  chopRound_mono_nonneg x y hx h

/-- Never more than the deposit: `0 ≤ ratio ≤ 1`, so `0 ≤ cumulative ≤ A`; and the amount released
when `W ≤ cumulative` was withdrawn before is at most the balance `A − W` left in the account: the
send cannot fail for lack of funds and the account never goes negative. -/
theorem C12_le_deposit (startT endT now A : Int) (hA : 0 ≤ A) (h : InLife startT endT now) :
    0 ≤ (ratioAt startT endT now).raw ∧ (ratioAt startT endT now).raw ≤ 1000000000000000000 ∧
    0 ≤ cumulative startT endT now A ∧ cumulative startT endT now A ≤ A ∧
    (∀ W, 0 ≤ W → W ≤ cumulative startT endT now A →
      0 ≤ Dec.trunc (Dec.sub (Dec.mul (ratioAt startT endT now) (Dec.ofInt A)) (Dec.ofInt W)) ∧
      Dec.trunc (Dec.sub (Dec.mul (ratioAt startT endT now) (Dec.ofInt A)) (Dec.ofInt W)) ≤ A - W) := by
  obtain ⟨r0, r1⟩ := ratioAt_range h
  obtain ⟨c0, c1⟩ := cumulative_range A hA h
  refine ⟨r0, r1, c0, c1, ?_⟩
  intro W hW0 hW
  rw [release_amount A W hA h hW0 hW]; omega

/-- nothing is due at the start, everything at the end -/
theorem C12_start_and_end (startT endT A : Int) (hA : 0 ≤ A) (h0 : 0 ≤ startT) (hl : startT / 1000 < endT / 1000) :
    cumulative startT endT startT A = 0 ∧ cumulative startT endT endT A = A := by
  have hle : startT ≤ endT := by omega
  exact ⟨cumulative_at_start A hA ⟨h0, Int.le_refl _, hle, hl⟩, cumulative_at_end A hA ⟨h0, hle, Int.le_refl _, hl⟩⟩

/-- Nothing outside the interval: once `now` is past the end (or the gauge is degenerate, or
its account is empty) the gauge is deleted, nothing is released and the ledger is untouched. -/
theorem C12_nothing_outside_interval (s : State) (now : Int) (released : Coins) (g : Gauge)
    (h : g.endT < now ∨ g.endT ≤ g.startT ∨ ¬ accountNonEmpty s g) :
    pullGauge s now released g = .ok ({ s with gauges := AMap.erase s.gauges g.id }, released) :=
  pullGauge_dead s now released g h

/-- Released coins go to the module account only (any gauge, any number of denominations):
a successful step changes nothing but the ledger (and possibly deletes this gauge); balances of
accounts other than the gauge account and the module account are unchanged; the gauge account
only decreases and the module account receives exactly what left it. -/
theorem C12_released_goes_to_module_only (s s' : State) (now : Int) (released rel' : Coins) (g : Gauge)
    (h : pullGauge s now released g = .ok (s', rel')) :
    s' = { s with bank := s'.bank, gauges := s'.gauges } ∧
    (s'.gauges = s.gauges ∨ s'.gauges = AMap.erase s.gauges g.id) ∧
    (∀ x d, x ≠ g.account → x ≠ s.moduleAcc → Bank.bal s'.bank x d = Bank.bal s.bank x d) ∧
    (g.account ≠ s.moduleAcc → ∀ d, Bank.bal s'.bank g.account d ≤ Bank.bal s.bank g.account d ∧
      Bank.bal s'.bank g.account d + Bank.bal s'.bank s.moduleAcc d
        = Bank.bal s.bank g.account d + Bank.bal s.bank s.moduleAcc d) := by
  rcases pullGauge_spec h with ⟨e, -⟩ | ⟨b, hb, e⟩
  · subst e
    exact ⟨rfl, Or.inr rfl, fun _ _ _ _ => rfl, fun _ _ => ⟨Int.le_refl _, rfl⟩⟩
  · subst e
    exact ⟨rfl, Or.inl rfl, fun x d hx hm => hb.bal_eq hx hm d,
      fun hne d => ⟨hb.bal_le_of_not_recipient hne d, hb.bal_add hne d⟩⟩

theorem addCoins_same (d : String) (x y : Int) : addCoins [(d, x)] [(d, y)] = [(d, x + y)] := by
  simp [addCoins]

/-- A deposit into an existing gauge id adds to the recorded amount
(single-denomination coins of the same denom) and keeps the id and the escrow account the chain
derives from it; nothing else in the state changes.  Two equal purchases in one block are therefore
ONE gauge of the summed amount, to which the theorems above apply. -/
theorem C12_same_id_deposits_merge (s : State) (now endT : Int) (id acc d : String) (x y : Int) (g0 : Gauge)
    (hg : AMap.get s.gauges id = some g0) (hcoins : g0.coins = [(d, x)]) :
    AMap.get (newGauge' s now id acc [(d, y)] endT).gauges id
      = some { id := id, startT := now, endT := endT, coins := [(d, x + y)], account := acc } ∧
    (∀ id', id' ≠ id → AMap.get (newGauge' s now id acc [(d, y)] endT).gauges id' = AMap.get s.gauges id') ∧
    newGauge' s now id acc [(d, y)] endT = { s with gauges := (newGauge' s now id acc [(d, y)] endT).gauges } := by
  unfold newGauge'
  simp only [hg, hcoins, addCoins_same]
  refine ⟨by simp, fun id' hne => by rw [AMap.get_set_ne hne], trivial⟩

theorem C12_fresh_gauge (s : State) (now endT : Int) (id acc : String) (coins : Coins)
    (hg : AMap.get s.gauges id = none) :
    AMap.get (newGauge' s now id acc coins endT).gauges id
      = some { id := id, startT := now, endT := endT, coins := coins, account := acc } := by
  unfold newGauge'; simp [hg]

/-- how the chain names a gauge: a function of the block height, the end and the coins of the
deposit (`sha256("height--end--coins")`), assumed collision-free -/
structure IdScheme where
  idf : Int → Int → Coins → String
  inj : ∀ h e c h' e' c', idf h e c = idf h' e' c' → h = h' ∧ e = e' ∧ c = c'

/-- every gauge sits under the id of a deposit made at some height until the gauge's own end, and
starts at that height's block time -/
def IdInv (I : IdScheme) (timeOf : Int → Int) (s : State) : Prop :=
  ∀ k g, AMap.get s.gauges k = some g → ∃ h c, k = I.idf h g.endT c ∧ g.startT = timeOf h

/-- A deposit never moves the interval of a gauge.  Under any collision-free naming of gauges by
(height, end, coins) — what `NewGauge` assumes of SHA-256; the assumption is a hypothesis here, not
proved — a deposit leaves the start and the end of *every* existing gauge as they were, the one it
merges into included (same id ⇒ same height ⇒ same block time, and same end), and the naming
invariant is kept.  So what was deposited for a gauge is streamed over its own duration whatever is
deposited later.  (An id that omits `end` is not collision-free
in this sense: two same-block purchases of equal price and different terms then share an id, and
the later one overwrites the earlier one's end.) -/
theorem C12_deposit_keeps_every_interval (I : IdScheme) (timeOf : Int → Int) (s : State)
    (hinv : IdInv I timeOf s) (h e : Int) (c : Coins) (acc : String) :
    IdInv I timeOf (newGauge' s (timeOf h) (I.idf h e c) acc c e) ∧
    ∀ k g, AMap.get s.gauges k = some g →
      ∃ g', AMap.get (newGauge' s (timeOf h) (I.idf h e c) acc c e).gauges k = some g' ∧
        g'.startT = g.startT ∧ g'.endT = g.endT := by
  constructor
  · intro k g hk
    unfold newGauge' at hk
    by_cases hkid : k = I.idf h e c
    · subst hkid
      simp only [AMap.get_set_self, Option.some.injEq] at hk
      subst hk
      exact ⟨h, c, rfl, rfl⟩
    · rw [AMap.get_set_ne hkid] at hk
      exact hinv k g hk
  · intro k g hk
    unfold newGauge'
    by_cases hkid : k = I.idf h e c
    · subst hkid
      obtain ⟨h0, c0, hid, hst⟩ := hinv _ g hk
      obtain ⟨hh, he, _⟩ := I.inj _ _ _ _ _ _ hid
      refine ⟨_, AMap.get_set_self _ _ _, ?_, ?_⟩
      · simp only; rw [hst, hh]
      · simp only; exact he
    · rw [AMap.get_set_ne hkid]
      exact ⟨g, hk, rfl, rfl⟩

/-- the naming invariant holds where there are no gauges (genesis) -/
theorem C12_idInv_init (I : IdScheme) (timeOf : Int → Int) (s : State) (h : s.gauges = []) :
    IdInv I timeOf s := by
  intro k g hk; rw [h] at hk; simp [AMap.get] at hk

/-- PRE-FIX `NewGauge`: the record of an existing id is overwritten with the new coins while the
escrow account keeps the coins of both deposits. -/
def newGaugeUnfixed (s : State) (now : Int) (id acc : String) (coins : Coins) (endT : Int) : State :=
  { s with gauges := AMap.set s.gauges id { id := id, startT := now, endT := endT, coins := coins, account := acc } }

/-! ### concrete gauge: 1000 ujkl over 30 days -/

def t0 : Int := 1700000000000000000
def g30 : Gauge := { id := "g", startT := t0, endT := t0 + 30 * dayNs, coins := [("ujkl", 1000)], account := "gacc" }

def gState (gs : AMap String Gauge) (bank : Bank) : State :=
  { files := [], files2 := [], proofs := [], providers := [], payinfo := [], collateral := [], gauges := gs,
    attests := [], reports := [], bank := bank,
    params := { proofWindow := 5, checkWindow := 5, chunkSize := 1024, pricePerTbPerMonth := 8, collateralPrice := 0,
                attestFormSize := 5, attestMinToPass := 3, referralCommission := 25, polRatio := 40 },
    moduleAcc := "storage", collateralAcc := "coll", polAcc := "pol", feeAcc := "fee", blocked := [] }

/-- what a release step leaves in (gauge account, module account) and what it reports as released -/
def outcome (r : Except String (State × Coins)) : Option (Int × Int × Coins) :=
  match r with
  | .ok (s, c) => some (Bank.bal s.bank "gacc" "ujkl", Bank.bal s.bank "storage" "ujkl", c)
  | .error _ => none

/-- after the first purchase of 1000 and the second transfer of 1000 into the escrow account -/
def deposited : State := gState [("g", g30)] [(("gacc", "ujkl"), 2000)]
/-- second `NewGauge` of the same id, pre-fix and fixed -/
def sU : State := newGaugeUnfixed deposited t0 "g" "gacc" [("ujkl", 1000)] (t0 + 30 * dayNs)
def sF : State := newGauge' deposited t0 "g" "gacc" [("ujkl", 1000)] (t0 + 30 * dayNs)

/-- Regression witness for the overwrite.  Two purchases of 1000 in one block under the same id:
the fixed handler records 2000; the pre-fix one records 1000 while the account holds 2000, so six
seconds into a 30-day gauge the release formula (with `W = −1000`) hands out 1000 — the linear
schedule says 0 — whereas the merged gauge releases nothing yet. -/
theorem C12_unfixed_overwrite_releases_early :
    (AMap.get sU.gauges "g").map (·.coins) = some [("ujkl", 1000)] ∧
    (AMap.get sF.gauges "g").map (·.coins) = some [("ujkl", 2000)] ∧
    ((AMap.get sU.gauges "g").map (fun g => outcome (pullGauge sU (t0 + 6000000000) [] g)))
      = some (some (1000, 1000, [("ujkl", 1000)])) ∧
    ((AMap.get sF.gauges "g").map (fun g => outcome (pullGauge sF (t0 + 6000000000) [] g)))
      = some (some (2000, 0, [])) ∧
    cumulative t0 (t0 + 30 * dayNs) (t0 + 6000000000) 2000 = 0 := by
  refine ⟨?_, ?_, ?_, ?_, ?_⟩ <;> decide +kernel

/-- PRE-FIX cumulative amount: the microsecond counts were taken from `time.Time.Sub`, which
saturates at ±(2^63−1) ns -/
def cumulativeOld (startT endT now A : Int) : Int :=
  Dec.trunc (Dec.mul (Dec.sub Dec.one
    ((Dec.quo? (Dec.ofInt (Int.tdiv (timeSub endT now) 1000)) (Dec.ofInt (Int.tdiv (timeSub endT startT) 1000))).getD Dec.zero))
    (Dec.ofInt A))

/-- Regression witness: a gauge of 1.2·10^19 ns (≈ 380 years, beyond 2^63−1 ns) at mid-life.
The old formula has released 349 of 1000 (at 2^64 ns even 0), the repaired one 500. -/
theorem C12_long_gauge_lags :
    cumulativeOld 0 12000000000000000000 6000000000000000000 1000 = 349 ∧
    cumulative 0 12000000000000000000 6000000000000000000 1000 = 500 ∧
    cumulativeOld 0 18446744073709551616 9223372036854775808 1000 = 0 := by decide +kernel

/-- the 30-day gauge is live at day 1, 15 and 30 … -/
example : InLife g30.startT g30.endT (t0 + dayNs) ∧ InLife g30.startT g30.endT (t0 + 15 * dayNs) ∧
    InLife g30.startT g30.endT (t0 + 30 * dayNs) := by
  refine ⟨⟨?_, ?_, ?_, ?_⟩, ⟨?_, ?_, ?_, ?_⟩, ⟨?_, ?_, ?_, ?_⟩⟩ <;> decide +kernel

/-- … its cumulative amounts there (and at day 10 and 29) follow the linear schedule … -/
example : [1, 10, 15, 29, 30].map (fun k => cumulative g30.startT g30.endT (t0 + k * dayNs) 1000)
    = [33, 333, 500, 966, 1000] := by decide +kernel

/-- … and three reward blocks (days 1, 15, 30) release 33, 467 and 500: after each the account
holds `1000 − cumulative`, whatever happened before (hypotheses of `C12_release_formula` with
`W = 0, 33, 500`). -/
example :
    outcome (pullGauge (gState [("g", g30)] [(("gacc", "ujkl"), 1000)]) (t0 + dayNs) [] g30)
      = some (967, 33, [("ujkl", 33)]) ∧
    outcome (pullGauge (gState [("g", g30)] [(("gacc", "ujkl"), 967), (("storage", "ujkl"), 33)]) (t0 + 15 * dayNs) [] g30)
      = some (500, 500, [("ujkl", 467)]) ∧
    outcome (pullGauge (gState [("g", g30)] [(("gacc", "ujkl"), 500), (("storage", "ujkl"), 500)]) (t0 + 30 * dayNs) [] g30)
      = some (0, 1000, [("ujkl", 500)]) ∧
    -- skipping the middle block changes nothing at the end
    outcome (pullGauge (gState [("g", g30)] [(("gacc", "ujkl"), 967), (("storage", "ujkl"), 33)]) (t0 + 30 * dayNs) [] g30)
      = some (0, 1000, [("ujkl", 967)]) ∧
    -- one nanosecond after the end the gauge is deleted and nothing moves
    (pullGauge (gState [("g", g30)] [(("gacc", "ujkl"), 5)]) (t0 + 30 * dayNs + 1) [] g30).toOption.map
      (fun r => (r.1.gauges.length, Bank.bal r.1.bank "gacc" "ujkl", Bank.bal r.1.bank "storage" "ujkl", r.2))
      = some (0, 5, 0, []) := by
  refine ⟨?_, ?_, ?_, ?_, ?_⟩ <;> decide +kernel

example : g30.coins = [("ujkl", 1000)] ∧ (0:Int) ≤ 1000 ∧ (1000:Int) ≤ I64.maxV ∧
    Bank.bal (gState [("g", g30)] [(("gacc", "ujkl"), 967)]).bank g30.account "ujkl" = 1000 - 33 ∧
    (33:Int) ≤ cumulative g30.startT g30.endT (t0 + 15 * dayNs) 1000 ∧
    g30.account ≠ (gState [("g", g30)] [(("gacc", "ujkl"), 967)]).moduleAcc := by decide +kernel

/-- The amount `amt64` that `pullTokensFromGauges` moves out of a gauge — sliced out of
x/storage/keeper/rewards.go and translated on every run, as a function of the gauge's start and
end and the block time in whole microseconds, the recorded amount and the gauge account's
balance — is the expression the model's `pullGauge` evaluates (and `C12_release_formula`,
`C12_cumulative_is_linear` are about): `trunc((1 − left/total)·A − (A − balance))`, with the
same inputs and nothing else. -/
theorem C12_generated_release_amount_is_the_model (startT endT now A bal : Int) :
    Generated.Pure.pullTokensFromGauges_amt64 (Int.tdiv endT 1000) (Int.tdiv now 1000) (Int.tdiv startT 1000) A bal =
      (Dec.quo? (Dec.ofInt (leftUs endT now)) (Dec.ofInt (totalUs startT endT))).map
        (fun q => Dec.trunc (Dec.sub (Dec.mul (Dec.sub Dec.one q) (Dec.ofInt A)) (Dec.ofInt (A - bal)))) ∧
    Generated.Pure.pullTokensFromGauges_amt64_inputs =
      ["pg.End.UnixMicro()", "currentTime.UnixMicro()", "pg.Start.UnixMicro()", "coin.Amount",
       "gaugeBalance.AmountOf(coin.Denom)"] := by
  refine ⟨?_, rfl⟩
  unfold Generated.Pure.pullTokensFromGauges_amt64 leftUs totalUs
  simp only [bind, Option.bind]
  cases Dec.quo? (Dec.ofInt (Int.tdiv endT 1000 - Int.tdiv now 1000))
    (Dec.ofInt (Int.tdiv endT 1000 - Int.tdiv startT 1000)) <;> rfl

end Canine.Storage
