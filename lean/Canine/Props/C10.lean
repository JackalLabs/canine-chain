/-
C10 — File-tree entries change only by their owner or, for posts, the folder's editors.
All theorems hold for every hash function `H` (ownership *is* the chain's predicate
H("o" ‖ address ‖ H(signer)) = entry.owner), every state and every message.
-/
import Canine.Proofs.Filetree
import Canine.Proofs.Basic
import Canine.Generated.KeyFacts
namespace Canine.Filetree

variable (H : String → String)

/-- `SetFiles` stores an entry under `FilesKey(files.Address, files.Owner)` (keeper/files.go) -/
def StoreInv (s : State) : Prop := ∀ k e, AMap.get s.files k = some e → k = (e.address, e.owner)

/-- the store keys a message may write or delete -/
def touched : Op → List (String × String)
  | .postFile _ acc hp hc .. =>
      [(addToMerkleS H hp hc, makeOwnerAddress H (addToMerkleS H hp hc) acc)]
  | .deleteFile _ hp acc => [(hp, makeOwnerAddress H hp acc)]
  | .changeOwner _ a fo no => [(a, makeOwnerAddress H a fo), (a, makeOwnerAddress H a no)]
  | .addViewers _ a fo .. | .removeViewers _ a fo .. | .resetViewers _ a fo
  | .addEditors _ a fo .. | .removeEditors _ a fo .. | .resetEditors _ a fo => [(a, fo)]
  | .provision c .. => [(rootAddress H, makeOwnerAddress H (rootAddress H) (H c))]
  | .postKey .. => []

/-- the entry whose ownership (or, for posts, whose editor list) authorises the message -/
def authKey : Op → Option (String × String)
  | .postFile _ acc hp .. => some (hp, makeOwnerAddress H hp acc)
  | .deleteFile _ hp acc => some (hp, makeOwnerAddress H hp acc)
  | .changeOwner _ a fo _ => some (a, makeOwnerAddress H a fo)
  | .addViewers _ a fo .. | .removeViewers _ a fo .. | .resetViewers _ a fo
  | .addEditors _ a fo .. | .removeEditors _ a fo .. | .resetEditors _ a fo => some (a, fo)
  | .provision .. | .postKey .. => none

def Op.creator : Op → String
  | .postFile c .. | .deleteFile c .. | .changeOwner c .. | .addViewers c .. | .removeViewers c ..
  | .resetViewers c .. | .addEditors c .. | .removeEditors c .. | .resetEditors c ..
  | .provision c .. | .postKey c .. => c

def Op.isPost : Op → Bool
  | .postFile .. => true
  | _ => false

theorem AclOp.keys {op : Op} {c a fo : String} (h : AclOp op c a fo) :
    authKey H op = some (a, fo) ∧ touched H op = [(a, fo)] ∧ op.creator = c ∧ op.isPost = false := by
  cases h <;> exact ⟨rfl, rfl, rfl, rfl⟩

/-- A successful delete / change-owner / viewer- or editor-list message found
the named entry and its signer is that entry's owner; a successful post found the parent folder
and its signer has edit access to it.  (Contrapositive: a signer lacking the right fails, and a
failed message leaves the tree unchanged by `stepT`.) -/
theorem C10_success_requires_right (s s' : State) (op : Op) (hstep : step H s op = some s')
    (k : String × String) (hk : authKey H op = some k) :
    ∃ f, AMap.get s.files k = some f ∧
      (if op.isPost then hasEditAccess H f op.creator = some true else isOwner H f op.creator = true) := by
  cases step_sound H hstep with
  | postFile c acc hp hc ct v e vr er tr parent hp' hok => cases hk; exact ⟨parent, hp', hok⟩
  | deleteFile c hp acc f hf ho => cases hk; exact ⟨f, hf, ho⟩
  | changeOwner c a fo no f hf ho => cases hk; exact ⟨f, hf, ho⟩
  | acl c a fo f e' hop hf ho =>
    obtain ⟨hauth, -, hc, hpost⟩ := hop.keys H
    cases hauth.symm.trans hk
    exact ⟨f, hf, by rw [hpost, hc]; exact ho⟩
  | provision => cases hk
  | postKey => cases hk

theorem StoreInv.get_set_found {s : State} (hinv : StoreInv s) {k : String × String} {f : Entry}
    (hf : AMap.get s.files k = some f) (e' : Entry) :
    AMap.get (AMap.set s.files (f.address, f.owner) e') k = some e' := by
  rw [← hinv k f hf, AMap.get_set_self]

/-- A successful message alters nothing but the named entry (for change-owner: the
entry under its old and under its new owner key; provisioning: the signer's own root). -/
theorem C10_touches_only_named_entry (s s' : State) (op : Op) (hinv : StoreInv s)
    (hstep : step H s op = some s') (k : String × String) (hk : k ∉ touched H op) :
    AMap.get s'.files k = AMap.get s.files k := by
  cases step_sound H hstep with
  | postFile => exact AMap.get_set_ne (List.ne_of_not_mem_cons hk)
  | deleteFile => exact AMap.get_erase_ne (List.ne_of_not_mem_cons hk)
  | changeOwner c a fo no f hf =>
    have hfk : a = f.address := congrArg Prod.fst (hinv _ _ hf)
    rw [← hfk]
    exact (AMap.get_erase_ne (List.ne_of_not_mem_cons hk)).trans
      (AMap.get_set_ne (List.ne_of_not_mem_cons (List.not_mem_of_not_mem_cons hk)))
  | acl c a fo f e' hop hf =>
    rw [(hop.keys H).2.1] at hk
    rw [← hinv _ _ hf]
    exact AMap.get_set_ne (List.ne_of_not_mem_cons hk)
  | provision => exact AMap.get_set_ne (List.ne_of_not_mem_cons hk)
  | postKey => rfl

/-- What the three viewer messages do to the named entry: everything but the
viewer list is untouched; add/remove change only the named ids (removed ids are gone); a reset
leaves exactly the owner's own viewer id (with the key it had). -/
theorem C10_viewer_messages_change_only_named_ids (s s' : State) (c a fo : String) (op : Op)
    (hinv : StoreInv s) (hstep : step H s op = some s')
    (hop : (∃ ids keys, op = .addViewers c a fo ids keys) ∨ (∃ ids, op = .removeViewers c a fo ids) ∨
           op = .resetViewers c a fo) :
    ∃ f acl', AMap.get s.files (a, fo) = some f ∧
      AMap.get s'.files (a, fo) = some { f with viewers := acl' } ∧
      (∀ ids keys, op = .addViewers c a fo ids keys → ∀ id, id ∉ ids → aclGet acl' id = aclGet f.viewers id) ∧
      (∀ ids, op = .removeViewers c a fo ids →
          (∀ id, id ∉ ids → aclGet acl' id = aclGet f.viewers id) ∧ ∀ id, id ∈ ids → aclGet acl' id = none) ∧
      (op = .resetViewers c a fo →
          acl' = .map [(makeViewerAddress H f.tracking c, (aclGet f.viewers (makeViewerAddress H f.tracking c)).getD "")]) := by
  have h := handle_of_step H hstep
  rcases hop with ⟨ids, keys, rfl⟩ | ⟨ids, rfl⟩ | rfl
  · obtain ⟨f, hf, -, m, hm, -, m', hm', rfl⟩ := (addViewers_eq_some H).mp h
    refine ⟨f, .map m', hf, hinv.get_set_found hf _, fun _ _ e id hid => ?_, nofun, nofun⟩
    cases e
    exact aclGet_addIds hm hm' hid
  · obtain ⟨f, hf, -, m, hm, rfl⟩ := (removeViewers_eq_some H).mp h
    refine ⟨f, aclRemove f.viewers m ids, hf, hinv.get_set_found hf _, nofun, fun _ e => ?_, nofun⟩
    cases e
    exact ⟨fun id => aclGet_aclRemove_other hm, fun id => aclGet_aclRemove_removed _ m⟩
  · obtain ⟨f, hf, -, m, hm, rfl⟩ := (resetViewers_eq_some H).mp h
    exact ⟨f, _, hf, hinv.get_set_found hf _, nofun, nofun, fun _ => by rw [aclGet_of_aclMap hm]⟩

/-- `C10_viewer_messages_change_only_named_ids` for the editor list. -/
theorem C10_editor_messages_change_only_named_ids (s s' : State) (c a fo : String) (op : Op)
    (hinv : StoreInv s) (hstep : step H s op = some s')
    (hop : (∃ ids keys, op = .addEditors c a fo ids keys) ∨ (∃ ids, op = .removeEditors c a fo ids) ∨
           op = .resetEditors c a fo) :
    ∃ f acl', AMap.get s.files (a, fo) = some f ∧
      AMap.get s'.files (a, fo) = some { f with editors := acl' } ∧
      (∀ ids keys, op = .addEditors c a fo ids keys → ∀ id, id ∉ ids → aclGet acl' id = aclGet f.editors id) ∧
      (∀ ids, op = .removeEditors c a fo ids →
          (∀ id, id ∉ ids → aclGet acl' id = aclGet f.editors id) ∧ ∀ id, id ∈ ids → aclGet acl' id = none) ∧
      (op = .resetEditors c a fo →
          acl' = .map [(makeEditorAddress H f.tracking c, (aclGet f.editors (makeEditorAddress H f.tracking c)).getD "")]) := by
  have h := handle_of_step H hstep
  rcases hop with ⟨ids, keys, rfl⟩ | ⟨ids, rfl⟩ | rfl
  · obtain ⟨f, hf, -, m, hm, -, m', hm', rfl⟩ := (addEditors_eq_some H).mp h
    refine ⟨f, .map m', hf, hinv.get_set_found hf _, fun _ _ e id hid => ?_, nofun, nofun⟩
    cases e
    exact aclGet_addIds hm hm' hid
  · obtain ⟨f, hf, -, m, hm, rfl⟩ := (removeEditors_eq_some H).mp h
    refine ⟨f, aclRemove f.editors m ids, hf, hinv.get_set_found hf _, nofun, fun _ e => ?_, nofun⟩
    cases e
    exact ⟨fun id => aclGet_aclRemove_other hm, fun id => aclGet_aclRemove_removed _ m⟩
  · obtain ⟨f, hf, -, m, hm, rfl⟩ := (resetEditors_eq_some H).mp h
    exact ⟨f, _, hf, hinv.get_set_found hf _, nofun, nofun, fun _ => by rw [aclGet_of_aclMap hm]⟩

/-- A successful post writes the child at `AddToMerkle(parent, child)` (the address it
returns) and the new entry is owned by the same account hash as the folder it was posted under. -/
theorem C10_posted_entry_owned_by_folder_account (s s' : State) (c acc hp hc ct : String)
    (v e : Acl) (vr er tr : String) (hstep : step H s (.postFile c acc hp hc ct v e vr er tr) = some s') :
    ∃ parent, AMap.get s.files (hp, makeOwnerAddress H hp acc) = some parent ∧
      hasEditAccess H parent c = some true ∧
      AMap.get s'.files (addToMerkleS H hp hc, makeOwnerAddress H (addToMerkleS H hp hc) acc) =
        some { address := addToMerkleS H hp hc, owner := makeOwnerAddress H (addToMerkleS H hp hc) acc,
               contents := ct, viewers := v, editors := e, tracking := tr } := by
  obtain ⟨parent, hp', hok, rfl⟩ := (postFile_eq_some H).mp (handle_of_step H hstep)
  exact ⟨parent, hp', hok, AMap.get_set_self ..⟩

theorem C10_delete_removes_named_entry (s s' : State) (c hp acc : String)
    (hstep : step H s (.deleteFile c hp acc) = some s') :
    AMap.get s'.files (hp, makeOwnerAddress H hp acc) = none := by
  obtain ⟨f, -, -, rfl⟩ := (deleteFile_eq_some H).mp (handle_of_step H hstep)
  exact AMap.get_erase_self ..

/-- Change-owner moves the same entry (contents and lists untouched) to the key of the new owner,
which must have been free. -/
theorem C10_change_owner_moves_entry (s s' : State) (c a fo no : String) (hinv : StoreInv s)
    (hstep : step H s (.changeOwner c a fo no) = some s') :
    ∃ f, AMap.get s.files (a, makeOwnerAddress H a fo) = some f ∧
      AMap.get s.files (a, makeOwnerAddress H a no) = none ∧
      AMap.get s'.files (a, makeOwnerAddress H a fo) = none ∧
      AMap.get s'.files (a, makeOwnerAddress H a no) = some { f with owner := makeOwnerAddress H a no } := by
  obtain ⟨f, hf, -, hnew, rfl⟩ := (changeOwner_eq_some H).mp (handle_of_step H hstep)
  have hnone : AMap.get s.files (a, makeOwnerAddress H a no) = none := AMap.contains_eq_false.mp hnew
  have hne : (a, makeOwnerAddress H a fo) ≠ (a, makeOwnerAddress H a no) := by
    intro e; rw [e, hnone] at hf; cases hf
  have hfk : a = f.address := congrArg Prod.fst (hinv _ _ hf)
  refine ⟨f, hf, hnone, AMap.get_erase_self .., ?_⟩
  rw [← hfk]
  exact (AMap.get_erase_other hne).trans (AMap.get_set_self ..)

theorem C10_provision_writes_own_root (s : State) (c : String) (v e : Acl) (tr : String) :
    AMap.get (provision H s c v e tr).files (rootAddress H, makeOwnerAddress H (rootAddress H) (H c)) =
      some { address := rootAddress H, owner := makeOwnerAddress H (rootAddress H) (H c), contents := "",
             viewers := v, editors := e, tracking := tr } :=
  AMap.get_set_self ..

theorem StoreInv.set {s : State} (h : StoreInv s) {k' : String × String} {e' : Entry}
    (hk' : k' = (e'.address, e'.owner)) : StoreInv { s with files := AMap.set s.files k' e' } := by
  intro k e hke
  rw [AMap.get_set] at hke
  split at hke
  · next hk => cases hke; exact hk ▸ hk'
  · exact h k e hke

theorem StoreInv.erase {s : State} (h : StoreInv s) (k' : String × String) :
    StoreInv { s with files := AMap.erase s.files k' } := by
  intro k e hke
  rw [AMap.get_erase] at hke
  split at hke
  · cases hke
  · exact h k e hke

theorem C10_step_preserves_storeInv (s s' : State) (op : Op) (hinv : StoreInv s)
    (hstep : step H s op = some s') : StoreInv s' := by
  cases step_sound H hstep with
  | postFile => exact hinv.set rfl
  | deleteFile => exact hinv.erase _
  | changeOwner c a fo no f => exact (hinv.set (e' := { f with owner := makeOwnerAddress H a no }) rfl).erase _
  | acl c a fo f e' _ _ _ ha ho => exact hinv.set (ha ▸ ho ▸ rfl)
  | provision => exact hinv.set rfl
  | postKey => exact hinv

/-- failed messages change nothing (`stepT`) -/
def run (s : State) : List Op → State
  | [] => s
  | op :: rest => run (stepT H s op) rest

/-- The store invariant holds along every history from a state that has it, the empty tree
(`C10_storeInv_empty`) in particular: the hypothesis `hinv` of the theorems above costs nothing. -/
theorem C10_storeInv_along_histories (ops : List Op) : ∀ s, StoreInv s → StoreInv (run H s ops) :=
  run_inv (fun _ => rfl) (fun _ _ _ => rfl) (fun s op s' h hs => C10_step_preserves_storeInv H s s' op h hs) ops

theorem C10_storeInv_empty : StoreInv { files := [], pubkeys := [] } :=
  fun _ _ h => nomatch h

/-- the raw store key `address ‖ "/" ‖ owner ‖ "/"` of `FilesKey` (types/key_files.go) -/
def filesKey (a o : List Char) : List Char := a ++ '/' :: (o ++ ['/'])

/-- If the stored components are '/'-free (they are 64-character hex strings),
a lookup key built from *arbitrary* strings equals a stored key only when both components are
equal: crafted separators cannot make one entry answer for another. -/
theorem C10_filesKey_injective (a o a' o' : List Char) (ha' : '/' ∉ a') (ho' : '/' ∉ o')
    (h : filesKey a o = filesKey a' o') : a = a' ∧ o = o' := by
  have hc := congrArg (List.count '/') h
  simp only [filesKey, List.count_append, List.count_cons, List.count_nil] at hc
  have z1 : List.count '/' a' = 0 := List.count_eq_zero.mpr ha'
  have z2 : List.count '/' o' = 0 := List.count_eq_zero.mpr ho'
  simp only [z1, z2, beq_self_eq_true, if_true] at hc
  have ha : '/' ∉ a := List.count_eq_zero.mp (by omega)
  have ho : '/' ∉ o := List.count_eq_zero.mp (by omega)
  have h1 := prefix_unique a a' _ _ ha ha' h
  have h2 := prefix_unique o o' [] [] ho ho' h1.2
  exact ⟨h1.1, h2.1⟩

/-- non-vacuity: with a toy hash, a root is provisioned, its owner posts a child, a stranger cannot -/
def toyH (s : String) : String := "#" ++ s
def rootState : State := provision toyH { files := [], pubkeys := [] } "alice"
  (.map []) (.map [(makeEditorAddress toyH "t1" "alice", "k")]) "t1"
example : (step toyH rootState (.postFile "alice" (toyH "alice") (rootAddress toyH) "c" "x" (.map []) (.map []) "{}" "{}" "t2")).isSome = true := by decide +kernel
example : step toyH rootState (.postFile "mallory" (toyH "alice") (rootAddress toyH) "c" "x" (.map []) (.map []) "{}" "{}" "t2") = none := by decide +kernel
example : step toyH rootState (.deleteFile "mallory" (rootAddress toyH) (toyH "alice")) = none := by decide +kernel
example : (step toyH rootState (.deleteFile "alice" (rootAddress toyH) (toyH "alice"))).isSome = true := by decide +kernel

/-- `C10_filesKey_injective` is about this key format: an entry is identified by (address, owner).
The fingerprints of the key constructors of x/filetree/types/key*.go the model assumes;
`Generated.keyFns_filetree` is recomputed from the source on every run (the declarations are listed
in Generated/KeyFacts.lean). -/
def C10_expectedKeys : List (String × String) := [
  ("x/filetree/types/key_files.go:var _…", "9f4fce2c5ae85adc"),
  ("x/filetree/types/key_files.go:const FilesKeyPrefix…", "0f4f242d7ed948a5"),
  ("x/filetree/types/key_files.go:FilesKey", "6dd50d273d2b852e"),
  ("x/filetree/types/key_pubkey.go:var _…", "9f4fce2c5ae85adc"),
  ("x/filetree/types/key_pubkey.go:const PubkeyKeyPrefix…", "119e2d46099f5836"),
  ("x/filetree/types/key_pubkey.go:PubkeyKey", "f20db6b451653040"),
  ("x/filetree/types/keys.go:const ModuleName…", "f39a1b37036ddc2e"),
  ("x/filetree/types/keys.go:KeyPrefix", "caccc65e7667915d"),
  ("x/filetree/types/keys.go:const TrackerKey…", "f4db5adcceb09e9b")]

theorem C10_store_keys_as_modelled : Generated.keyFns_filetree = C10_expectedKeys := rfl

end Canine.Filetree
