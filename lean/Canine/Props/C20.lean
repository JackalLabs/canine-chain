/-
C20 — Hashed file-tree paths keep the parent/child relation; trailing slash is neutral.
For every hash function `H` and every path — no bound on the number or length of segments.
-/
import Canine.Filetree.Path
import Canine.Generated.KeyFacts
namespace Canine.Filetree

theorem splitOnSlash_ne_nil (s : Str) : splitOnSlash s ≠ [] := by
  induction s with
  | nil => simp [splitOnSlash]
  | cons c cs ih =>
    simp only [splitOnSlash]
    split
    · simp
    · split <;> simp

theorem splitOnSlash_noslash (s : Str) (h : '/' ∉ s) : splitOnSlash s = [s] := by
  induction s with
  | nil => rfl
  | cons c cs ih =>
    have hc : c ≠ '/' := fun e => h (by simp [e])
    have hcs : '/' ∉ cs := fun e => h (by simp [e])
    simp [splitOnSlash, hc, ih hcs]

theorem splitOnSlash_append (a b : Str) :
    splitOnSlash (a ++ '/' :: b) = splitOnSlash a ++ splitOnSlash b := by
  induction a with
  | nil => simp [splitOnSlash]
  | cons c cs ih =>
    simp only [List.cons_append, splitOnSlash]
    split
    · simp [ih]
    · rw [ih]
      cases hs : splitOnSlash cs with
      | nil => exact absurd hs (splitOnSlash_ne_nil cs)
      | cons h t => simp

theorem splitOnSlash_joinSlash : ∀ (segs : List Str), segs ≠ [] → (∀ s ∈ segs, '/' ∉ s) →
    splitOnSlash (joinSlash segs) = segs
  | [], h, _ => absurd rfl h
  | [s], _, hs => by simpa [joinSlash] using splitOnSlash_noslash s (hs s (by simp))
  | s :: t :: rest, _, hs => by
    simp only [joinSlash]
    rw [splitOnSlash_append, splitOnSlash_noslash s (hs s (by simp)),
      splitOnSlash_joinSlash (t :: rest) (by simp) (fun x hx => hs x (List.mem_cons_of_mem _ hx))]
    simp

theorem joinSlash_snoc : ∀ (init : List Str) (l : Str), init ≠ [] →
    joinSlash (init ++ [l]) = joinSlash init ++ '/' :: l
  | [], _, h => absurd rfl h
  | [s], l, _ => by simp [joinSlash]
  | s :: t :: rest, l, _ => by
    have ih := joinSlash_snoc (t :: rest) l (by simp)
    show s ++ '/' :: joinSlash ((t :: rest) ++ [l]) = (s ++ '/' :: joinSlash (t :: rest)) ++ '/' :: l
    rw [ih]; simp

theorem getLast?_ne_slash (x l : Str) (hl : l ≠ []) (hs : '/' ∉ l) : (x ++ l).getLast? ≠ some '/' := by
  rw [List.getLast?_append]
  cases h : l.getLast? with
  | none => exact absurd (List.getLast?_eq_none_iff.mp h) hl
  | some c => exact fun e => hs (Option.some.inj e ▸ List.mem_of_getLast? h)

theorem trimSlash_id (s : Str) (h : s.getLast? ≠ some '/') : trimSlash s = s := by
  simp [trimSlash, h]

theorem trimSlash_snoc (s : Str) : trimSlash (s ++ ['/']) = s := by
  simp [trimSlash]

theorem forall_mem_snoc {P : Str → Prop} {init : List Str} {l : Str} (hi : ∀ s ∈ init, P s) (hl : P l) :
    ∀ s ∈ init ++ [l], P s :=
  List.forall_mem_append.mpr ⟨hi, List.forall_mem_singleton.mpr hl⟩

theorem getLast?_joinSlash_snoc (init : List Str) (l : Str) (hl : '/' ∉ l) (hne : l ≠ []) :
    (joinSlash (init ++ [l])).getLast? ≠ some '/' := by
  by_cases h0 : init = []
  · subst h0; exact getLast?_ne_slash [] l hne hl
  · rw [joinSlash_snoc init l h0, List.append_cons]
    exact getLast?_ne_slash _ l hne hl

/-- what `MerklePath` and `MerkleHelper` cut such a path into: its segments -/
theorem chunks_joinSlash_snoc (init : List Str) (l : Str) (hi : ∀ s ∈ init, '/' ∉ s) (hl : '/' ∉ l)
    (hne : l ≠ []) : splitOnSlash (trimSlash (joinSlash (init ++ [l]))) = init ++ [l] := by
  rw [trimSlash_id _ (getLast?_joinSlash_snoc init l hl hne)]
  exact splitOnSlash_joinSlash _ (List.append_ne_nil_of_right_ne_nil _ (List.cons_ne_nil _ _)) (forall_mem_snoc hi hl)

/-- For every segment list whose segments are '/'-free and whose last segment is non-empty, the
address of the '/'-joined path is the fold `total := H(total ‖ H(segment))` starting from the empty
string. -/
theorem C20_merklePath_eq_fold (H : Str → Str) (init : List Str) (l : Str)
    (hi : ∀ s ∈ init, '/' ∉ s) (hl : '/' ∉ l) (hne : l ≠ []) :
    merklePath H (joinSlash (init ++ [l])) = foldSegs H (init ++ [l]) := by
  rw [merklePath, chunks_joinSlash_snoc init l hi hl hne]

/-- the empty path is not covered by `C20_merklePath_eq_fold` (its last segment is empty): it is the
single empty segment -/
theorem C20_merklePath_empty (H : Str → Str) : merklePath H [] = foldSegs H [[]] := rfl

/-- the fold takes one more segment the way `AddToMerkle` combines an address with a child hash -/
theorem foldSegs_snoc (H : Str → Str) (segs : List Str) (c : Str) :
    foldSegs H (segs ++ [c]) = addToMerkle H (foldSegs H segs) (H c) := by
  simp [foldSegs, addToMerkle, List.foldl_append]

/-- **Parent/child.**  The address of `parent/child` is the parent's address combined with the
hash of the child segment (`AddToMerkle`), for every parent string not ending in '/' and every
non-empty '/'-free child name. -/
theorem C20_child_address (H : Str → Str) (p c : Str) (hp : p.getLast? ≠ some '/')
    (hc : '/' ∉ c) (hne : c ≠ []) :
    merklePath H (p ++ '/' :: c) = addToMerkle H (merklePath H p) (H c) := by
  have h1 : (p ++ '/' :: c).getLast? ≠ some '/' := by
    rw [List.append_cons]; exact getLast?_ne_slash _ c hne hc
  rw [merklePath, merklePath, trimSlash_id _ h1, trimSlash_id _ hp, splitOnSlash_append, splitOnSlash_noslash c hc,
    foldSegs_snoc]

/-- **The client-side derivation agrees.**  For a plain path of at least two '/'-free segments whose
last two segments are non-empty, the pair `MerkleHelper` derives — parent address and child hash —
recombines (`AddToMerkle`, which is what `PostFile` computes and returns) to the address of the
path itself; one trailing '/' makes no difference.  (Outside this domain the helper is *not*
faithful in the Go source as it stands: `a//b` is given the address of `a/b`, because the parent string
`a/` loses its empty last segment to the trailing-slash rule — see the `example` on `a//b` below.) -/
theorem C20_helper_recombines_to_path_address (H : Str → Str) (init : List Str) (m l : Str)
    (hi : ∀ s ∈ init, '/' ∉ s) (hm : '/' ∉ m) (hmne : m ≠ []) (hl : '/' ∉ l) (hne : l ≠ []) :
    let path := joinSlash (init ++ [m] ++ [l])
    addToMerkle H (merkleHelper H path).1 (merkleHelper H path).2 = merklePath H path ∧
    merkleHelper H (path ++ ['/']) = merkleHelper H path := by
  intro path
  have hseg := forall_mem_snoc hi hm
  have hhelper : merkleHelper H path = (foldSegs H (init ++ [m]), H l) := by
    simp only [merkleHelper, path, chunks_joinSlash_snoc (init ++ [m]) l hseg hl hne, List.dropLast_concat,
      List.getLastD_concat, C20_merklePath_eq_fold H init m hi hm hmne]
  constructor
  · rw [hhelper, ← foldSegs_snoc]
    exact (C20_merklePath_eq_fold H (init ++ [m]) l hseg hl hne).symm
  · rw [merkleHelper, merkleHelper, trimSlash_snoc, trimSlash_id _ (getLast?_joinSlash_snoc _ l hl hne)]

/-- For a path whose last segment is *empty* (written with the extra slash, `…/m//`) the
helper keeps the empty child and recombines to that path's own address, distinct by construction
from the address of `…/m` (`C20_distinct_segments_distinct_addresses`). -/
theorem C20_helper_recombines_with_empty_last_segment (H : Str → Str) (init : List Str) (m : Str)
    (hi : ∀ s ∈ init, '/' ∉ s) (hm : '/' ∉ m) (hmne : m ≠ []) :
    let path := joinSlash (init ++ [m] ++ [[]]) ++ ['/']
    addToMerkle H (merkleHelper H path).1 (merkleHelper H path).2 = merklePath H path := by
  intro path
  have hchunks : splitOnSlash (trimSlash path) = init ++ [m] ++ [[]] := by
    rw [trimSlash_snoc]
    exact splitOnSlash_joinSlash _ (List.append_ne_nil_of_right_ne_nil _ (List.cons_ne_nil _ _))
      (forall_mem_snoc (forall_mem_snoc hi hm) List.not_mem_nil)
  simp only [merkleHelper, merklePath, hchunks, List.dropLast_concat, List.getLastD_concat,
    chunks_joinSlash_snoc init m hi hm hmne, foldSegs_snoc]

theorem C20_trailing_slash_neutral (H : Str → Str) (p : Str) (hp : p.getLast? ≠ some '/') :
    merklePath H (p ++ ['/']) = merklePath H p := by
  rw [merklePath, merklePath, trimSlash_snoc, trimSlash_id _ hp]

theorem foldSegs_snoc_ne_nil (H : Str → Str) (hlen : ∀ x, (H x).length = 64) (init : List Str) (c : Str) :
    foldSegs H (init ++ [c]) ≠ [] := fun h => by
  have := congrArg List.length h
  rw [foldSegs_snoc, addToMerkle, hlen] at this
  cases this

/-- The address determines the segment sequence, or the proof hands back a collision: equal hashes
have equal pre-images `address ‖ H(segment)` (or are one), and a pre-image splits at its fixed-width
suffix into the parent's address and the hash of the last segment.  The last segment is the
outermost hash, so the induction is over the reversed lists. -/
theorem foldSegs_reverse_inj_or_collision (H : Str → Str) (hlen : ∀ x, (H x).length = 64) :
    ∀ r1 r2 : List Str, foldSegs H r1.reverse = foldSegs H r2.reverse → r1 = r2 ∨ ∃ x y, x ≠ y ∧ H x = H y
  | [], [], _ => .inl rfl
  | [], c2 :: r2, heq => absurd heq.symm (List.reverse_cons ▸ foldSegs_snoc_ne_nil H hlen _ c2)
  | c1 :: r1, [], heq => absurd heq (List.reverse_cons ▸ foldSegs_snoc_ne_nil H hlen _ c1)
  | c1 :: r1, c2 :: r2, heq => by
    rw [List.reverse_cons, List.reverse_cons, foldSegs_snoc, foldSegs_snoc] at heq
    by_cases hpre : foldSegs H r1.reverse ++ H c1 = foldSegs H r2.reverse ++ H c2
    · have hw := (hlen c1).trans (hlen c2).symm
      rcases foldSegs_reverse_inj_or_collision H hlen r1 r2 (List.append_inj_left' hpre hw) with rfl | hcoll
      · exact (Decidable.em (c1 = c2)).imp (fun e => by rw [e]) fun hc => ⟨c1, c2, hc, List.append_inj_right' hpre hw⟩
      · exact .inr hcoll
    · exact .inr ⟨_, _, hpre, heq⟩

theorem foldSegs_inj_or_collision (H : Str → Str) (hlen : ∀ x, (H x).length = 64) (s1 s2 : List Str)
    (heq : foldSegs H s1 = foldSegs H s2) : s1 = s2 ∨ ∃ x y, x ≠ y ∧ H x = H y :=
  (foldSegs_reverse_inj_or_collision H hlen s1.reverse s2.reverse
    (by rwa [List.reverse_reverse, List.reverse_reverse])).imp_left List.reverse_inj.mp

/-- In collision-extraction form: if two different segment lists have the same address, the proof
hands back two *different* inputs on which the hash agrees.  The only fact used about `H` is that
its output has a fixed length (64 hex characters), which holds of hex(SHA-256). -/
theorem C20_distinct_segments_distinct_addresses (H : Str → Str) (hlen : ∀ x, (H x).length = 64) :
    ∀ (s1 s2 : List Str), s1 ≠ s2 → foldSegs H s1 = foldSegs H s2 → ∃ x y, x ≠ y ∧ H x = H y :=
  fun s1 s2 hne heq => (foldSegs_inj_or_collision H hlen s1 s2 heq).resolve_left hne

/-- non-vacuity / a worked instance with a toy hash: ["a","b"] folds as AddToMerkle says -/
example : foldSegs (fun x => 'h' :: x) [['a'], ['b']] = ['h','h','h','a','h','b'] := by decide +kernel

/-- the helper outside its domain, for every hash function: the plain path `a//b` (segments
`a`, ``, `b`) is given the address of `a/b` -/
example (H : Str → Str) :
    addToMerkle H (merkleHelper H "a//b".toList).1 (merkleHelper H "a//b".toList).2
      = merklePath H "a/b".toList := by
  simp [merkleHelper, merklePath, addToMerkle, trimSlash, splitOnSlash, joinSlash, foldSegs]

/-- **C20, the client-side copies (regenerated fact).**  The client helper that `canined tx filetree post-file`
uses to turn a plain path into `HashParent` / `HashChild` (`x/filetree/client/cli/utils.go: merkleHelper`) is the
same code, modulo the package qualifier, as the helper the harness evaluates against the model on every path
record (`types.MerkleHelper`), and so are the keeper's `MakeOwnerAddress` (`keeper/access.go`) and the one
in `types/test_helpers.go`: what `C20_helper_recombines_to_path_address` and the differential evaluation
establish for one copy holds for the other.  The third `MakeOwnerAddress`, in `client/cli/utils.go`, is not
in the table: it hashes the user before combining, so it is a different function, not a copy.  The table is
recomputed from the source on every run (`gen/main.go`). -/
theorem C20_client_helper_copies_are_the_compared_ones :
    Generated.helperClones.all (fun c => c.2.2) = true ∧ Generated.helperClones.length = 2 := by decide +kernel

end Canine.Filetree
