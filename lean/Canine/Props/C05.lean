/-
C05 — No sequence of valid transactions can make block processing panic.

`beginBlock` (Storage/Reward.lean) returns `Except String State`, every panicking primitive of the
Go code being an explicit `.error` (`Dec.Quo` by zero, negative coin amounts, `TruncateInt64` out of
range, `%` by a zero check window).  `C05_beginBlock_never_panics` needs `NoPanicInv` (check window
≠ 0, stored sizes ≥ 1: what validation establishes, kept by every message and by the block) and the
gauge hypothesis `GaugesSafe` (Proofs/NoPanic.lean).  The latter holds right after creation
(`C05_gauges_safe_after_creation`: every gauge started, lasts ≥ a day, its escrow holds at least each
recorded amount and less than 2^62) and is discharged by `GaugeInv` (Proofs/GaugeInvDef.lean), an
invariant of every history under the side conditions `HistOk`:
`C05_history_never_panics_unconditional`.  (Per gauge, that being on schedule keeps it safe at every
later block is also `C12_on_schedule_gauge_is_safe_later`, Props/C12.lean.)
Sizes are unbounded `Int` in the model, matching the code, which sums the credited sizes in
arbitrary precision.  The mint BeginBlocker (`Canine.Mint.blockMint`) is a total function; the
amounts handed to `sdk.NewInt64Coin` are non-negative (`C05_mint_never_panics`).
-/
import Canine.Proofs.NoPanic
import Canine.Props.C13
import Canine.Proofs.GaugeInvStep
namespace Canine.Storage
open Bank

def SizesOk (s : State) : Prop := SizesOkF s.files

/-- what validation establishes and C05 needs: a non-zero check window (the parameter validator
demands `> 1`) and every stored file has `fileSize ≥ 1`, `maxProofs ≥ 1` (`PostFile` checks) -/
def NoPanicInv (s : State) : Prop := s.params.checkWindow ≠ 0 ∧ SizesOk s

theorem C05_reward_payout_never_panics (s : State) (total : Int) (coins : Coins) (prover : String)
    (worth : Int) (ht : 0 < total) (hw : 0 ≤ worth) (hc : ∀ c ∈ coins, 0 ≤ c.2) :
    ∃ s', payProver s total coins prover worth = .ok s' :=
  payProver_ok s total coins prover worth ht hw hc

theorem C05_total_positive_when_someone_credited (s : State) (h : Int) (hs : SizesOk s) :
    let total := (s.files.map (fun kv => kv.2.fileSize * (kv.2.proofs.length : Int))).sum
    let tracker := (s.files.foldl (fun (acc : State × Tracker) kv => manageFile acc.1 h acc.2 kv.2) (s, [])).2
    (tracker ≠ [] → 0 < total) ∧ ∀ pw ∈ tracker, 0 ≤ pw.2 := by
  intro total tracker
  obtain ⟨t1, t2⟩ := manageFiles_tracker h s.files s [] (fun kv hkv => by have := (hs kv hkv).1; omega)
    (fun _ hp => nomatch hp)
  exact ⟨fun hne => t2.elim (fun e => absurd e hne) (total_pos s.files fun kv hkv => (hs kv hkv).1), t1⟩

theorem manageRewards_ok (s : State) (h now : Int) (hs : SizesOk s) (hg : GaugesSafe s now) :
    ∃ s', manageRewards s h now = .ok s' := by
  obtain ⟨hpos, hnn⟩ := C05_total_positive_when_someone_credited s h hs
  obtain ⟨hb, hgg, hm, _⟩ := (sameMoney_filePass h s.files s []).core
  obtain ⟨s2, coins, e, hcoins⟩ := pullGauges_ok _ now (GaugesSafe.congr hb hgg hm hg)
  rw [manageRewards_eq, e]
  refine (foldlM_except_ok (fun (l : List (String × Int)) (_ : State) => ∀ pw ∈ l, pw ∈ (filePass h s.files s []).2)
    (fun st pw => payProver st (blockTotal s.files) coins pw.1 pw.2) (fun pw rest st hP => ?_)
    (sortedProvers _) s2 (fun pw hpw => List.mem_mergeSort.mp hpw)).imp fun _ h => h.1
  have hmem := hP pw (by simp)
  obtain ⟨s', e'⟩ := payProver_ok st _ coins pw.1 pw.2 (hpos (List.ne_nil_of_mem hmem)) (hnn pw hmem) hcoins
  exact ⟨s', e', fun q hq => hP q (List.mem_cons_of_mem _ hq)⟩

theorem C05_beginBlock_never_panics (s : State) (h now : Int) (hinv : NoPanicInv s) (hg : GaugesSafe s now) :
    ∃ s', beginBlock s h now = .ok s' := by
  rw [beginBlock_of_window h now hinv.1]
  split
  · exact ⟨s, rfl⟩
  · exact manageRewards_ok s h now hinv.2 hg

/-- Every message preserves `NoPanicInv` (the only writer of new files is `postFile`,
which checks `1 ≤ fileSize`, `1 ≤ maxProofs`; `postProof` / `report` rewrite an existing file with
the same sizes; no message touches the parameters), and so does the reward block. -/
theorem C05_validation_establishes_sizes (s s' : State) (h now : Int) (hinv : NoPanicInv s) :
    (∀ op, step s h now op = some s' → NoPanicInv s') ∧
    (beginBlock s h now = .ok s' → NoPanicInv s') :=
  have keep : SizesOkF s'.files ∧ s'.params = s.params → NoPanicInv s' :=
    fun e => ⟨by rw [e.2]; exact hinv.1, e.1⟩
  ⟨fun _ hstep => keep (step_sizes hinv.2 hstep), fun hb => keep (beginBlock_sizes hinv.2 hb)⟩

/-- a posted file always has both sizes ≥ 1 and a footprint within int64 -/
theorem C05_postFile_validates (s s' : State) (h now : Int) (c m : String) (fs mp ex pt : Int) (note : String)
    (nv : Bool) (jp : Int) (gid gacc : String)
    (hstep : step s h now (.postFile c m fs mp ex pt note nv jp gid gacc) = some s') :
    1 ≤ fs ∧ 1 ≤ mp ∧ fs ≤ Int.tdiv I64.maxV mp := by
  obtain ⟨-, h1, h2, h3, -⟩ := postFile_spec (jp := ⟨jp⟩) hstep
  exact ⟨h1, h2, h3⟩

/-- events of a history, as in C07: a message (a failing one commits nothing) or the block -/
inductive BEv where
  | msg (op : Op)
  | block

/-- run a history; `none` = some BeginBlock panicked -/
def runB (s : State) : List (Int × Int × BEv) → Option State
  | [] => some s
  | (h, now, .msg op) :: rest => runB (stepT s h now op) rest
  | (h, now, .block) :: rest =>
    match beginBlock s h now with
    | .ok s' => runB s' rest
    | .error _ => none

theorem runB_block_ok {s s1 : State} {h now : Int} (rest : List (Int × Int × BEv))
    (hb : beginBlock s h now = .ok s1) : runB s ((h, now, .block) :: rest) = runB s1 rest := by
  rw [runB, hb]

theorem runB_block {s s' : State} {h now : Int} {rest : List (Int × Int × BEv)}
    (hr : runB s ((h, now, .block) :: rest) = some s') :
    ∃ s1, beginBlock s h now = .ok s1 ∧ runB s1 rest = some s' := by
  simp only [runB] at hr
  split at hr
  · exact ⟨_, ‹_›, hr⟩
  · cases hr

theorem noPanicInv_stepT {s : State} (h now : Int) (op : Op) (hinv : NoPanicInv s) :
    NoPanicInv (stepT s h now op) :=
  getD_inv hinv (fun s1 hs => (C05_validation_establishes_sizes s s1 h now hinv).1 op hs)

/-- `NoPanicInv` holds along every history from a state where it holds (e.g. genesis: no files and a
valid check window, `C05_noPanicInv_genesis`); hence, with the gauge hypothesis at each block, no
block of the history panics (`C05_history_never_panics`). -/
theorem C05_noPanicInv_along_histories : ∀ (hist : List (Int × Int × BEv)) (s s' : State),
    NoPanicInv s → runB s hist = some s' → NoPanicInv s' := by
  intro hist
  induction hist with
  | nil => intro s s' hinv hr; cases hr; exact hinv
  | cons ev rest ih =>
    obtain ⟨h, now, ev⟩ := ev
    intro s s' hinv hr
    cases ev with
    | msg op => exact ih _ s' (noPanicInv_stepT h now op hinv) hr
    | block =>
      obtain ⟨s1, hb, hr⟩ := runB_block hr
      exact ih s1 s' ((C05_validation_establishes_sizes s s1 h now hinv).2 hb) hr

def GaugesSafeAlong (s : State) : List (Int × Int × BEv) → Prop
  | [] => True
  | (h, now, .msg op) :: rest => GaugesSafeAlong (stepT s h now op) rest
  | (h, now, .block) :: rest =>
    GaugesSafe s now ∧ ∀ s', beginBlock s h now = .ok s' → GaugesSafeAlong s' rest

/-- **C05, histories.**  From a state satisfying `NoPanicInv` (e.g. genesis), no sequence of
messages and blocks makes a block panic, provided the gauges are safe at each block. -/
theorem C05_history_never_panics : ∀ (hist : List (Int × Int × BEv)) (s : State),
    NoPanicInv s → GaugesSafeAlong s hist → ∃ s', runB s hist = some s' := by
  intro hist
  induction hist with
  | nil => exact fun s _ _ => ⟨s, rfl⟩
  | cons ev rest ih =>
    obtain ⟨h, now, ev⟩ := ev
    intro s hinv hg
    cases ev with
    | msg op => exact ih _ (noPanicInv_stepT h now op hinv) hg
    | block =>
      obtain ⟨s1, hb⟩ := C05_beginBlock_never_panics s h now hinv hg.1
      rw [runB_block_ok rest hb]
      exact ih s1 ((C05_validation_establishes_sizes s s1 h now hinv).2 hb) (hg.2 s1 hb)

theorem C05_noPanicInv_genesis (s : State) (hF : s.files = []) (hw : 1 < s.params.checkWindow) : NoPanicInv s :=
  ⟨by omega, fun kv hkv => by rw [hF] at hkv; cases hkv⟩

/-- `GaugesSafe` holds whenever every gauge started no later than `now`, lasts at
least a day, and its escrow account holds at least each recorded (non-negative) amount, below
2^62 — in particular right after creation, when `bal = A` and `startT = now` — given the structural
facts about escrow accounts (derived from the gauge id, never the module account) and
denominations (one entry each). -/
theorem C05_gauges_safe_after_creation (s : State) (now : Int)
    (hacc : ∀ kv ∈ s.gauges, kv.2.account ≠ s.moduleAcc)
    (hdist : s.gauges.Pairwise (fun x y => x.2.account ≠ y.2.account))
    (hden : ∀ kv ∈ s.gauges, (kv.2.coins.map (·.1)).Nodup)
    (hfunded : ∀ kv ∈ s.gauges, kv.2.startT ≤ now ∧ kv.2.endT - kv.2.startT ≥ dayNs ∧
      ∀ c ∈ kv.2.coins, 0 ≤ c.2 ∧ c.2 ≤ bal s.bank kv.2.account c.1 ∧ bal s.bank kv.2.account c.1 < 2 ^ 62) :
    GaugesSafe s now := by
  refine ⟨fun kv hkv => ?_, hacc, hdist, hden⟩
  obtain ⟨h1, h2, h3⟩ := hfunded kv hkv
  -- a day is far more than the 1999 ns of `Live.long`
  have hlong : kv.2.startT + 1999 ≤ kv.2.endT := by unfold dayNs at h2; omega
  refine gaugeSafe_of_released_le h1 hlong fun c hc => ?_
  obtain ⟨a0, a1, a2⟩ := h3 c hc
  have h62 : (2:Int) ^ 62 = 4611686018427387904 := by decide
  refine ⟨a0, by unfold I64.maxV; omega, fun hend => ?_⟩
  have := GI.zero_le_trunc (GI.would_range ⟨h1, hend, hlong⟩ a0).1
  omega

/-- a gauge whose end is not after its start, whose end has passed, or whose escrow is empty is
simply removed: no condition at all is needed for it -/
theorem C05_dead_gauge_is_safe (b : Bank) (now : Int) (g : Gauge)
    (h : g.endT ≤ g.startT ∨ g.endT < now ∨ acctEmpty b g.account = true) : GaugeSafe b now g := by
  intro h1 h2 h3
  rcases h with h | h | h
  · omega
  · omega
  · rw [h] at h3; cases h3

/-! ### regression witnesses -/

def gKey : FKey := ("aa", "alice", 5)
def gFile (size : Int) : File :=
  { merkle := "aa", owner := "alice", start := 5, expires := 200, fileSize := size, proofInterval := 100,
    proofType := 0, proofs := [("prov", gKey)], maxProofs := 3, note := "" }
def gProof : Proof := { prover := "prov", merkle := "aa", owner := "alice", start := 5, lastProven := 5, chunkToProve := 0 }
def gGauge : Gauge := { id := "g1", startT := 0, endT := 86400000000000, coins := [("ujkl", 1000)], account := "esc" }

/-- one file of `size` bytes proven by "prov", one day-long gauge of 1000ujkl fully in escrow -/
def gState (size : Int) : State :=
  { (default : State) with
    params := { (default : Params) with checkWindow := 3, proofWindow := 100 }
    files := [(gKey, gFile size)], files2 := [(gKey, gFile size)]
    proofs := [(("prov", gKey), gProof)]
    gauges := [("g1", gGauge)]
    bank := [(("esc", "ujkl"), 1000)]
    moduleAcc := "mod" }

def gNoon : Int := 43200000000000

/-- equality of `Except` values is decidable, so that concrete runs of the BeginBlocker below are
checked by evaluation -/
instance decEqExcept {ε α : Type} [DecidableEq ε] [DecidableEq α] : DecidableEq (Except ε α)
  | .ok a, .ok b => if h : a = b then isTrue (h ▸ rfl) else isFalse fun e => h (Except.ok.inj e)
  | .error a, .error b => if h : a = b then isTrue (h ▸ rfl) else isFalse fun e => h (Except.error.inj e)
  | .ok _, .error _ => isFalse nofun
  | .error _, .ok _ => isFalse nofun

/-- Regression witness (pre-fix state): a stored file of size 0 with one credited prover makes the
reward block divide by zero. -/
theorem C05_zero_size_panics : manageRewards (gState 0) 6 gNoon = .error "division by zero" := by
  decide +kernel

def bKey : FKey := ("bb", "alice", 5)
/-- the same with a second file of size −5 proven by "evil" (sizes were not validated before the fix) -/
def gStateNeg : State :=
  { gState 10 with
    files := [(gKey, gFile 10), (bKey, { gFile (-5) with merkle := "bb", proofs := [("evil", bKey)] })]
    proofs := [(("prov", gKey), gProof), (("evil", bKey), { gProof with prover := "evil", merkle := "bb" })] }

theorem C05_negative_size_panics : manageRewards gStateNeg 6 gNoon = .error "negative coin amount: -500" := by
  have e : filePass 6 gStateNeg.files gStateNeg [] = (gStateNeg, [("prov", 10), ("evil", -5)]) := by
    decide +kernel
  -- the kernel does not evaluate `mergeSort` on two elements
  have e3 : sortedProvers [("prov", 10), ("evil", -5)] = [("evil", -5), ("prov", 10)] := by
    simp [sortedProvers, List.mergeSort, List.MergeSort.Internal.splitInTwo]
  rw [manageRewards_eq, e, e3]
  decide +kernel

/-- the primitives directly: a zero total divides by zero, a negative credited size yields a
negative coin -/
example (s : State) (coins : Coins) (p : String) (w : Int) : payProver s 0 coins p w = .error "division by zero" := by
  simp [payProver, Dec.quo?, Dec.ofInt]
example : payProver (gState 10) 5 [("ujkl", 500)] "evil" (-5) = .error "negative coin amount: -500" := by
  decide +kernel

/-- a funded gauge shorter than a microsecond (impossible through the handlers, which create
gauges of at least a day) is the remaining division by zero -/
example : pullGauge (gState 10) 100 [] { gGauge with endT := 500 }
    = .error "division by zero (gauge shorter than a microsecond)" := rfl

end Canine.Storage

/-! ### the mint BeginBlocker and the EndBlockers -/
namespace Canine.Mint

/-- `BlockMint`: the emission handed to `sdk.NewInt64Coin` is non-negative whatever
the stored values are (`C13_next_nonneg`: the emission is floored at zero), and with non-negative
ratios (the parameter validator) so are the three shares, which are exactly the floors
`ratio·m/100` (`C13_share_is_floor`); `blockMint` returns exactly that emission.  A failed send is
only logged: `blockMint` is a total function, it has no failing branch. -/
theorem C05_mint_never_panics (p : Params) (s : State)
    (h1 : 0 ≤ p.stakerRatio) (h2 : 0 ≤ p.devGrantsRatio) (h3 : 0 ≤ p.providerRatio) :
    let m := nextMint (s.last.getD p.tokensPerBlock) p.mintDecrease
    0 ≤ m ∧ 0 ≤ share p.stakerRatio m ∧ 0 ≤ share p.devGrantsRatio m ∧ 0 ≤ share p.providerRatio m ∧
    (blockMint p s).2 = m := by
  intro m
  have hm : 0 ≤ m := C13_next_nonneg _ _
  have sh : ∀ r, 0 ≤ r → 0 ≤ share r m := by
    intro r hr
    rw [C13_share_is_floor r m hr hm]
    exact Int.ediv_nonneg (Int.mul_nonneg hr hm) (by omega)
  refine ⟨hm, sh _ h1, sh _ h2, sh _ h3, ?_⟩
  -- every branch of `blockMint` returns the emission as its second component
  unfold blockMint
  simp only [apply_ite Prod.snd, ite_self]
  rfl

/-- with the validated parameters and a non-negative recorded emission, the emission also never
exceeds the previous one (so it stays within the int64 range it started in) -/
theorem C05_mint_bounded (p : Params) (s : State) (hp : 0 ≤ p.tokensPerBlock) (hd : 0 ≤ p.mintDecrease)
    (hl : ∀ x, s.last = some x → 0 ≤ x) :
    nextMint (s.last.getD p.tokensPerBlock) p.mintDecrease ≤ s.last.getD p.tokensPerBlock := by
  apply C13_next_le_prev _ _ _ hd
  cases hs : s.last with
  | none => simpa using hp
  | some x => simpa using hl x hs

end Canine.Mint

namespace Canine.Storage
open Bank

/-- the `EndBlock` of every custom module only returns an empty validator-update list (module.go):
end-of-block processing is the identity -/
def customEndBlock (s : State) : State := s
theorem C05_endBlock_trivial (s : State) : customEndBlock s = s := rfl

/-- **Non-vacuity.**  The concrete state `gState 10` (one proven 10-byte file, one funded day-long
gauge, block at noon) satisfies both hypotheses of `C05_beginBlock_never_panics`, runs the full
reward path (height 6 is a multiple of the check window 3), and the prover is paid. -/
example : NoPanicInv (gState 10) ∧ GaugesSafe (gState 10) gNoon :=
  ⟨show (gState 10).params.checkWindow ≠ 0 ∧ ∀ kv ∈ (gState 10).files, 1 ≤ kv.2.fileSize ∧ 1 ≤ kv.2.maxProofs
      from by decide +kernel,
    C05_gauges_safe_after_creation _ _ (by decide +kernel) (by decide +kernel) (by decide +kernel)
      (by decide +kernel)⟩

example : ∃ s', beginBlock (gState 10) 6 gNoon = .ok s' ∧ bal s'.bank "prov" "ujkl" = 500 :=
  ⟨{ gState 10 with bank := [(("esc", "ujkl"), 500), (("mod", "ujkl"), 0), (("prov", "ujkl"), 500)] },
    by decide +kernel⟩

end Canine.Storage

/-! ### the gauge hypothesis discharged: `GaugeInv` is an invariant of every history -/
namespace Canine.Storage
open Bank GI

/-- side conditions on a history (nothing about release amounts, ratios or decimals):
* times are non-decreasing along the history and start at `t` (CometBFT BFT time: the time of a
  block is not before the time of its predecessor; every message of a block carries the block time);
* every message satisfies `MsgOk` in the state it is delivered to: it is not signed by the escrow
  account of a stored gauge, and the id / escrow account the chain derived for a new gauge follow the
  fixed injective scheme `E`, avoid the two module accounts, and an id that is already stored was
  stored at this same block time (see `MsgOk`).
Blocks carry no condition besides their time. -/
def HistOk (E : EscrowScheme) (s : State) (t : Int) : List (Int × Int × BEv) → Prop
  | [] => True
  | (h, now, .msg op) :: rest => t ≤ now ∧ MsgOk E s now op ∧ HistOk E (stepT s h now op) now rest
  | (h, now, .block) :: rest => t ≤ now ∧ ∀ s', beginBlock s h now = .ok s' → HistOk E s' now rest

def lastTime (t : Int) : List (Int × Int × BEv) → Int
  | [] => t
  | (_, now, _) :: rest => lastTime now rest

/-- The gauge invariant is kept by every message and by the reward block
(`stepT_gaugeInv`, `beginBlock_gaugeInv`), time passing keeps it (`GaugeInv.advance`), and it implies
the hypothesis `GaugesSafe` of `C05_beginBlock_never_panics` (`GaugeInv.gaugesSafe`). -/
theorem C05_gaugeInv_preserved (E : EscrowScheme) (s s' : State) (h t now : Int) (hinv : NoPanicInv s)
    (hg : GaugeInv E s t) (ht : t ≤ now) :
    GaugesSafe s now ∧
    (∀ op, MsgOk E s now op → GaugeInv E (stepT s h now op) now) ∧
    (beginBlock s h now = .ok s' → GaugeInv E s' now) :=
  ⟨(hg.advance ht).gaugesSafe, fun _ hok => stepT_gaugeInv (hg.advance ht) hok,
   fun hb => beginBlock_gaugeInv hinv.2 (hg.advance ht) hb⟩

theorem hist_invariants (E : EscrowScheme) :
    ∀ (hist : List (Int × Int × BEv)) (s : State) (t0 : Int),
      NoPanicInv s → GaugeInv E s t0 → HistOk E s t0 hist →
      ∃ s', runB s hist = some s' ∧ NoPanicInv s' ∧ GaugeInv E s' (lastTime t0 hist) := by
  intro hist
  induction hist with
  | nil => exact fun s _ hinv hg _ => ⟨s, rfl, hinv, hg⟩
  | cons ev rest ih =>
    obtain ⟨h, now, ev⟩ := ev
    intro s t0 hinv hg hh
    cases ev with
    | msg op =>
      obtain ⟨ht, hok, hrest⟩ := hh
      exact ih _ now (noPanicInv_stepT h now op hinv) (stepT_gaugeInv (hg.advance ht) hok) hrest
    | block =>
      obtain ⟨ht, hrest⟩ := hh
      have hg' := hg.advance ht
      obtain ⟨s1, hb⟩ := C05_beginBlock_never_panics s h now hinv hg'.gaugesSafe
      rw [runB_block_ok rest hb]
      exact ih s1 now ((C05_validation_establishes_sizes s s1 h now hinv).2 hb) (beginBlock_inv hg' hb) (hrest s1 hb)

/-- **C05, histories, without the gauge hypothesis.**  From a state that satisfies `NoPanicInv` and
the gauge invariant `GaugeInv` at time `t0` — e.g. genesis: no files, no gauges, a ledger in order
(`C05_noPanicInv_genesis`, `C05_gaugeInv_genesis`) — no sequence of messages and blocks satisfying the
side conditions `HistOk` makes a block panic. -/
theorem C05_history_never_panics_unconditional (E : EscrowScheme) :
    ∀ (hist : List (Int × Int × BEv)) (s : State) (t0 : Int),
      NoPanicInv s → GaugeInv E s t0 → HistOk E s t0 hist → ∃ s', runB s hist = some s' :=
  fun hist s t0 hinv hg hh => (hist_invariants E hist s t0 hinv hg hh).imp fun _ h => h.1

theorem C05_invariants_along_histories (E : EscrowScheme) :
    ∀ (hist : List (Int × Int × BEv)) (s s' : State) (t0 : Int),
      NoPanicInv s → GaugeInv E s t0 → HistOk E s t0 hist → runB s hist = some s' →
      NoPanicInv s' ∧ GaugeInv E s' (lastTime t0 hist) := by
  intro hist s s' t0 hinv hg hh hr
  obtain ⟨s'', h1, h2⟩ := hist_invariants E hist s t0 hinv hg hh
  rw [hr] at h1; cases h1; exact h2

/-- the gauge invariant at genesis: no gauges, and a ledger with non-negative entries whose total
supply of every denomination fits an int64 (storage messages and blocks only move coins, so the
bound is kept — `BankOk.moves`) -/
theorem C05_gaugeInv_genesis (E : EscrowScheme) (s : State) (t : Int) (hG : s.gauges = [])
    (hnn : ∀ kv ∈ s.bank, 0 ≤ kv.2) (hsup : ∀ d, supply s.bank d ≤ I64.maxV) : GaugeInv E s t :=
  GaugeInv.init E s t hG ⟨hnn, hsup⟩

/-- from genesis (no files, no gauges, a valid check window): the other hypotheses are on the genesis
ledger and `HistOk` -/
theorem C05_history_never_panics_from_genesis (E : EscrowScheme) (hist : List (Int × Int × BEv)) (s : State) (t0 : Int)
    (hF : s.files = []) (hw : 1 < s.params.checkWindow) (hG : s.gauges = [])
    (hnn : ∀ kv ∈ s.bank, 0 ≤ kv.2) (hsup : ∀ d, supply s.bank d ≤ I64.maxV) (hh : HistOk E s t0 hist) :
    ∃ s', runB s hist = some s' :=
  C05_history_never_panics_unconditional E hist s t0 (C05_noPanicInv_genesis s hF hw)
    (C05_gaugeInv_genesis E s t0 hG hnn hsup) hh

/-! #### the hypotheses are satisfiable: a purchase, a same-block second purchase merging into the
same gauge, then two reward blocks -/

/-- escrow account of gauge `id`: the id with a prefix -/
def exE : EscrowScheme := ⟨fun id => "esc/" ++ id, fun _ _ h => (String.append_right_inj _).mp h⟩

def exS0 : State :=
  { (default : State) with
    params := { (default : Params) with checkWindow := 3, proofWindow := 100, pricePerTbPerMonth := 8, referralCommission := 25, polRatio := 40 }
    bank := [(("alice", "ujkl"), 1000000000000), (("bob", "ujkl"), 1000000000000)]
    moduleAcc := "mod"
    collateralAcc := "coll"
    polAcc := "pol"
    feeAcc := "fee" }

def exT0 : Int := 1700000000000000000
/-- alice buys 1 TB for 30 days at 0.20 $/JKL; the chain derives gauge id "g1", escrow "esc/g1" -/
def exOp : Op := .buyStorage "alice" "alice" 30 1000000000000 "ujkl" none 200000000000000000 "g1" "esc/g1"
/-- bob buys the same plan in the same block: same height, end and coins, hence the same gauge id -/
def exOp2 : Op := .buyStorage "bob" "bob" 30 1000000000000 "ujkl" none 200000000000000000 "g1" "esc/g1"
def exHist : List (Int × Int × BEv) :=
  [(2, exT0, .msg exOp), (2, exT0, .msg exOp2), (3, exT0 + dayNs, .block), (6, exT0 + 2 * dayNs, .block)]

def exG : Gauge :=
  { id := "g1", startT := exT0, endT := exT0 + 30 * dayNs, coins := [("ujkl", 4666666)], account := "esc/g1" }
/-- the state after the first purchase: 13333333 ujkl paid, 4666666 of them in escrow -/
def exS1 : State :=
  { exS0 with
    bank := [(("alice", "ujkl"), 999986666667), (("bob", "ujkl"), 1000000000000), (("mod", "ujkl"), 1), (("esc/g1", "ujkl"), 4666666),
             (("pol", "ujkl"), 5333333), (("fee", "ujkl"), 3333333)]
    payinfo := [("alice", { startT := exT0, endT := exT0 + 30 * dayNs, spaceAvailable := 1000000000000, spaceUsed := 0, address := "alice" })]
    gauges := [("g1", exG)] }

theorem exStep : stepT exS0 2 exT0 exOp = exS1 := by decide +kernel

theorem msgOk_buyStorage {E : EscrowScheme} {s : State} {now : Int} {c fa : String} {dd b : Int} {dn : String}
    {ref : Option String} {jp : Int} {gid gacc : String}
    (hs : ∀ kv ∈ s.gauges, c ≠ kv.2.account ∧ acctOf s c ≠ kv.2.account)
    (h1 : gacc = E.accOf gid) (h2 : gacc ≠ s.moduleAcc) (h3 : gacc ≠ s.collateralAcc)
    (h4 : ∀ g ∈ AMap.get s.gauges gid, g.startT = now) :
    MsgOk E s now (.buyStorage c fa dd b dn ref jp gid gacc) :=
  ⟨hs, fun _ _ hop => by cases hop; exact ⟨h1, h2, h3, h4⟩⟩

/-- the hypotheses of `C05_history_never_panics_unconditional` hold for `exS0`, `exHist` -/
theorem exHyps : NoPanicInv exS0 ∧ GaugeInv exE exS0 exT0 ∧ HistOk exE exS0 exT0 exHist := by
  refine ⟨C05_noPanicInv_genesis exS0 rfl (by decide), C05_gaugeInv_genesis exE exS0 exT0 rfl (by decide +kernel) ?_, ?_⟩
  · intro d
    simp only [exS0, supply]
    unfold I64.maxV
    split <;> omega
  · simp only [exHist, HistOk, exStep]
    exact ⟨Int.le_refl _,
      msgOk_buyStorage (by decide +kernel) rfl (by decide +kernel) (by decide +kernel) (by decide +kernel),
      Int.le_refl _,
      msgOk_buyStorage (by decide +kernel) rfl (by decide +kernel) (by decide +kernel) (by decide +kernel),
      by unfold dayNs; omega, fun _ _ => ⟨by unfold dayNs; omega, fun _ _ => trivial⟩⟩

example : ∃ s', runB exS0 exHist = some s' :=
  C05_history_never_panics_unconditional exE exHist exS0 exT0 exHyps.1 exHyps.2.1 exHyps.2.2

/-! the history is not trivial: both purchases succeed, the second merges into the gauge of the
first, and both reward blocks run the release path -/

def exBank (bob md esc : Int) : Bank :=
  [(("alice", "ujkl"), 999986666667), (("bob", "ujkl"), bob), (("mod", "ujkl"), md), (("esc/g1", "ujkl"), esc),
   (("pol", "ujkl"), 10666666), (("fee", "ujkl"), 6666666)]

/-- after bob's purchase: one gauge "g1" recording 9333332 ujkl, all of it in escrow -/
def exS2 : State :=
  { exS1 with
    bank := exBank 999986666667 2 9333332
    payinfo := [("alice", { startT := exT0, endT := exT0 + 30 * dayNs, spaceAvailable := 1000000000000, spaceUsed := 0, address := "alice" }),
                ("bob", { startT := exT0, endT := exT0 + 30 * dayNs, spaceAvailable := 1000000000000, spaceUsed := 0, address := "bob" })]
    gauges := [("g1", { exG with coins := [("ujkl", 9333332)] })] }

theorem exStep2 : stepT exS1 2 exT0 exOp2 = exS2 := by decide +kernel

def exSt (md esc : Int) : State := { exS2 with bank := exBank 999986666667 md esc }

/-- the run, evaluated: the two purchases put 9333332 ujkl into escrow under one gauge; the first
reward block (one day later, height 3) releases 311111, the second (height 6) another 311111 -/
theorem exBlock1 : beginBlock exS2 3 (exT0 + dayNs) = .ok (exSt 311113 9022221) := by decide +kernel

theorem exBlock2 : beginBlock (exSt 311113 9022221) 6 (exT0 + 2 * dayNs) = .ok (exSt 622224 8711110) := by
  decide +kernel

theorem exRun : runB exS0 exHist = some (exSt 622224 8711110) := by
  rw [exHist, runB, exStep, runB, exStep2, runB_block_ok _ exBlock1, runB_block_ok _ exBlock2]; rfl

/-- the escrow account is debited exactly what the module account receives, and the final state
again satisfies both invariants (`C05_invariants_along_histories`) -/
example : bal (exSt 622224 8711110).bank "esc/g1" "ujkl" = 9333332 - 2 * 311111 ∧
    NoPanicInv (exSt 622224 8711110) ∧ GaugeInv exE (exSt 622224 8711110) (exT0 + 2 * dayNs) :=
  ⟨by decide +kernel, C05_invariants_along_histories exE exHist exS0 _ exT0 exHyps.1 exHyps.2.1 exHyps.2.2 exRun⟩

/-! #### the same-block-time condition on a re-used gauge id is needed -/

/-- alice's gauge one day later, after the first reward block released 155555 ujkl -/
def exS1' : State :=
  { exS1 with
    bank := [(("alice", "ujkl"), 999986666667), (("bob", "ujkl"), 1000000000000), (("mod", "ujkl"), 155556), (("esc/g1", "ujkl"), 4511111),
             (("pol", "ujkl"), 5333333), (("fee", "ujkl"), 3333333)] }

/-- Why `MsgOk.oracle` asks that an already stored id was stored at this block time: if the id
oracle returned, one block later, the id of alice's gauge again (for the real chain: a SHA-256
collision between two different heights), bob's deposit would be merged into alice's gauge and
`NewGauge` would restart it at the new block time, although 155555 ujkl have already left escrow; an
hour later the schedule of the restarted gauge is still behind that, and the reward block panics. -/
theorem C05_cross_block_merge_panics :
    runB exS0 [(2, exT0, .msg exOp), (3, exT0 + dayNs, .block)] = some exS1' ∧
    beginBlock (stepT exS1' 4 (exT0 + dayNs) exOp2) 6 (exT0 + dayNs + 3600000000000)
      = .error "negative coin amount: -142592" := by
  constructor
  · have b1 : beginBlock exS1 3 (exT0 + dayNs) = .ok exS1' := by decide +kernel
    rw [runB, exStep, runB_block_ok _ b1]; rfl
  · decide +kernel

end Canine.Storage
