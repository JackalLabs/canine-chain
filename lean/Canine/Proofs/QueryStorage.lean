/-
Lemmas tying the query model of x/storage (Canine/Query/Storage.lean) to the store the message
model maintains: the listing a client obtains by following `NextKey` through `AllFiles`,
`AllFilesByOwner`, `AllFilesByMerkle`, `ProofsByAddress` … is exactly the content of the corresponding
index.  The only assumption is the physical one: the raw keys of a store are distinct.
-/
import Canine.Proofs.Page
import Canine.Query.Storage
namespace Canine.Query

variable {V : Type}

theorem sortByKey_sorted (l : List (String × V)) (hnd : (l.map (·.1)).Nodup) : Sorted (sortByKey l) := by
  have hne : (sortByKey l).Pairwise (fun a b => a.1 ≠ b.1) :=
    List.pairwise_map.mp (((sortByKey_perm l).map _).nodup_iff.mpr hnd)
  exact ((sortByKey_pairwise l).and hne).imp fun ⟨h1, h2⟩ =>
    Decidable.byContradiction fun hlt => h2 (String.le_antisymm h1 (String.not_lt.mp hlt))

theorem entries_sorted {K : Type} (m : List (K × V)) (kf : K → String)
    (hraw : (m.map (fun kv => kf kv.1)).Nodup) :
    Sorted (sortByKey (m.map (fun kv => (kf kv.1, kv.2)))) :=
  sortByKey_sorted _ (by rw [List.map_map]; exact hraw)

theorem entries_length {K : Type} (m : List (K × V)) (kf : K → String) :
    (sortByKey (m.map (fun kv => (kf kv.1, kv.2)))).length = m.length := by
  rw [(sortByKey_perm _).length_eq, List.length_map]

/-- A walk through any listing built on `query.Paginate` returns the store's records, each once
(as a permutation of the store's values), whatever the page size. -/
theorem walk_entries_perm {K : Type} (m : List (K × V)) (kf : K → String) (limit fuel : Nat)
    (hraw : (m.map (fun kv => kf kv.1)).Nodup) (hf : m.length + 1 ≤ fuel) :
    ∃ l, walk (sortByKey (m.map (fun kv => (kf kv.1, kv.2)))) limit false fuel none [] = some l ∧
      l.Perm (m.map (·.2)) := by
  refine ⟨_, walk_forward_complete _ limit fuel (entries_sorted m kf hraw) (by rw [entries_length]; exact hf), ?_⟩
  have := (sortByKey_perm (m.map (fun kv => (kf kv.1, kv.2)))).map (·.2)
  rwa [List.map_map] at this

theorem underPrefix_sorted (l : List (String × V)) (p : String) (h : Sorted l) : Sorted (underPrefix l p) :=
  List.Pairwise.sublist List.filter_sublist h

theorem hasPrefix_append (p rest : String) : hasPrefix p (p ++ rest) = true := by
  simp [hasPrefix, String.toList_append]

/-- A walk through a listing under the prefix `p` (a scan without terminator) returns exactly
the records whose raw key starts with `p`.  The walk hands full keys back to `paginate`; on the wire
the keys are relative to the prefix (`paginateUnder`), and that the two walks agree is not proved
(trusted). -/
theorem walk_underPrefix {K : Type} (m : List (K × V)) (kf : K → String) (p : String) (limit fuel : Nat)
    (hraw : (m.map (fun kv => kf kv.1)).Nodup) (hf : m.length + 1 ≤ fuel) :
    ∃ l, walk (underPrefix (sortByKey (m.map (fun kv => (kf kv.1, kv.2)))) p) limit false fuel none [] = some l ∧
      ∀ v, v ∈ l ↔ ∃ k, (k, v) ∈ m ∧ hasPrefix p (kf k) = true := by
  have hlen : (underPrefix (sortByKey (m.map (fun kv => (kf kv.1, kv.2)))) p).length ≤ m.length :=
    entries_length m kf ▸ List.length_filter_le _ _
  refine ⟨_, walk_forward_complete _ limit fuel (underPrefix_sorted _ p (entries_sorted m kf hraw)) (by omega),
    fun v => ?_⟩
  simp only [underPrefix, List.mem_map, List.mem_filter, mem_sortByKey]
  constructor
  · rintro ⟨_, ⟨⟨kv, hkv, rfl⟩, hp⟩, rfl⟩
    exact ⟨kv.1, hkv, hp⟩
  · rintro ⟨k, hk, hp⟩
    exact ⟨(kf k, v), ⟨⟨(k, v), hk, rfl⟩, hp⟩, rfl⟩

end Canine.Query

namespace Canine.Storage.Query
open Canine.Query

theorem walk_allFiles (s : State) (limit fuel : Nat)
    (hraw : (s.files.map (fun kv => fileKeyStr kv.1)).Nodup) (hf : s.files.length + 1 ≤ fuel) :
    ∃ l, walk (primaryEntries s) limit false fuel none [] = some l ∧ ∀ f, f ∈ l ↔ f ∈ s.files.map (·.2) :=
  let ⟨l, hl, hp⟩ := walk_entries_perm s.files fileKeyStr limit fuel hraw hf
  ⟨l, hl, fun _ => hp.mem_iff⟩

theorem walk_allFiles_reverse (s : State) (limit fuel : Nat)
    (hraw : (s.files.map (fun kv => fileKeyStr kv.1)).Nodup) (hf : s.files.length + 1 ≤ fuel) :
    walk (primaryEntries s) limit true fuel none [] = some ((primaryEntries s).reverse.map (·.2)) :=
  walk_reverse_complete _ limit fuel (entries_sorted _ _ hraw) (by rw [primaryEntries, entries_length]; exact hf)

/-- The scan has no terminator: besides the owner's files the walk may list those of owners whose
address merely starts with `owner`, and nothing else. -/
theorem walk_allFilesByOwner (s : State) (owner : String) (limit fuel : Nat)
    (hraw : (s.files2.map (fun kv => fileKey2Str kv.1)).Nodup) (hf : s.files2.length + 1 ≤ fuel) :
    ∃ l, walk (underPrefix (secondaryEntries s) owner) limit false fuel none [] = some l ∧
      (∀ k f, (k, f) ∈ s.files2 → k.2.1 = owner → f ∈ l) ∧
      (∀ f, f ∈ l → ∃ k, (k, f) ∈ s.files2 ∧ hasPrefix owner (fileKey2Str k) = true) := by
  obtain ⟨l, hl, hmem⟩ := walk_underPrefix s.files2 fileKey2Str owner limit fuel hraw hf
  refine ⟨l, hl, fun k f hkf hown => (hmem f).mpr ⟨k, hkf, ?_⟩, fun f => (hmem f).mp⟩
  subst hown
  simp only [fileKey2Str, String.append_assoc]
  exact hasPrefix_append _ _

theorem walk_allFilesByMerkle (s : State) (merkle : String) (limit fuel : Nat)
    (hraw : (s.files.map (fun kv => fileKeyStr kv.1)).Nodup) (hf : s.files.length + 1 ≤ fuel) :
    ∃ l, walk (underPrefix (primaryEntries s) merkle) limit false fuel none [] = some l ∧
      (∀ k f, (k, f) ∈ s.files → k.1 = merkle → f ∈ l) ∧
      (∀ f, f ∈ l → ∃ k, (k, f) ∈ s.files ∧ hasPrefix merkle (fileKeyStr k) = true) := by
  obtain ⟨l, hl, hmem⟩ := walk_underPrefix s.files fileKeyStr merkle limit fuel hraw hf
  refine ⟨l, hl, fun k f hkf hm => (hmem f).mpr ⟨k, hkf, ?_⟩, fun f => (hmem f).mp⟩
  subst hm
  simp only [fileKeyStr, String.append_assoc]
  exact hasPrefix_append _ _

theorem walk_proofsByAddress (s : State) (prover : String) (limit fuel : Nat)
    (hraw : (s.proofs.map (fun kv => proofKeyStr kv.1)).Nodup) (hf : s.proofs.length + 1 ≤ fuel) :
    ∃ l, walk (underPrefix (proofEntries s) prover) limit false fuel none [] = some l ∧
      (∀ k p, (k, p) ∈ s.proofs → k.1 = prover → p ∈ l) := by
  obtain ⟨l, hl, hmem⟩ := walk_underPrefix s.proofs proofKeyStr prover limit fuel hraw hf
  refine ⟨l, hl, fun k p hkp hpr => (hmem p).mpr ⟨k, hkp, ?_⟩⟩
  subst hpr
  simp only [proofKeyStr, String.append_assoc]
  exact hasPrefix_append _ _

/-- the single-record queries read the index the messages maintain -/
theorem run_file (s : State) (now : Int) (m o : String) (st : Int) :
    run s now (.file m o st) = (match AMap.get s.files (m, o, st) with | some f => .file f | none => .err) := rfl

/-- What the plan queries report is read off the plan record: `StoragePaymentInfo` returns it,
`GetClientFreeSpace` its available minus used space, `GetPayData` the remaining time and its
purchased space. -/
theorem run_payInfo (s : State) (now : Int) (a : String) (p : PayInfo) (h : AMap.get s.payinfo a = some p) :
    run s now (.payInfo a) = .payInfo p ∧
    run s now (.clientFreeSpace a) = .num (I64.wrap (p.spaceAvailable - p.spaceUsed)) ∧
    run s now (.payData a) = .payData (unixSec p.endT - unixSec now) p.spaceAvailable := by
  simp [run, h]

end Canine.Storage.Query
