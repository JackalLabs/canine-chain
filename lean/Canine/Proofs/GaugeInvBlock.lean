/-
Gauge invariant for C05: the reward block keeps `GaugeInv`.

After `pullGauge` at block time `now` a gauge that was on schedule before has released exactly the
truncated schedule value `⌊ratio·A⌋` (truncation is toward zero): the amount it computes is
`trunc(would − (A − bal))`, and `A − bal` is a whole number of base units at most `would` — so it is
on schedule at `now`.  A gauge past its end,
or with an empty escrow account, is removed without any transfer.  The other gauges' escrow accounts
are untouched, the payouts only move coins out of the module account, and the loop over the files
touches neither ledger nor gauges.
-/
import Canine.Proofs.GaugeInvDef
namespace Canine.Storage
open Bank GI

theorem pullGauge_of_live {s : State} {now : Int} {rel : Coins} {g : Gauge}
    (hl : Live g.startT g.endT now) (he : acctEmpty s.bank g.account = false) :
    pullGauge s now rel g = g.coins.foldlM (coinStep g (ratioAt g.startT g.endT now)) (s, rel) := by
  have hd : ¬ (g.endT < now ∨ g.endT ≤ g.startT ∨ acctEmpty s.bank g.account = true) := by
    have := hl.notEnded; have := hl.long
    simp only [he, Bool.false_eq_true, or_false]; omega
  rw [pullGauge_eq, if_neg hd, quo_eq _ _ (by have := hl.us.2.2; omega)]
  rfl

theorem foldlM_singleton {α β ε : Type} (f : β → α → Except ε β) (a : α) (b : β) :
    [a].foldlM f b = f b a := by
  rw [List.foldlM_cons]; cases f b a <;> rfl

/-- pulling a gauge that is on schedule: it is removed, or it has not ended and has afterwards
released exactly the truncated schedule value, the state being unchanged or changed by one transfer
of ujkl from the escrow account to the module account -/
theorem pullGauge_outcome {st st' : State} {now : Int} {rel rel' : Coins} {g : Gauge}
    (hok : GaugeOk st.bank now g) (hne : g.account ≠ st.moduleAcc)
    (h : pullGauge st now rel g = .ok (st', rel')) :
    st' = { st with gauges := AMap.erase st.gauges g.id } ∨
    (now ≤ g.endT ∧ ExactAt st'.bank now g ∧
      (st' = st ∨ ∃ x b, g.coins ≠ [] ∧ send st.bank g.account st.moduleAcc [("ujkl", x)] = some b ∧
        st' = { st with bank := b })) := by
  by_cases hd : g.endT < now ∨ g.endT ≤ g.startT ∨ acctEmpty st.bank g.account = true
  · rw [pullGauge_eq, if_pos hd] at h; cases h; exact Or.inl rfl
  have hend : now ≤ g.endT := Int.not_lt.mp fun hh => hd (Or.inl hh)
  have hl := hok.live hend
  rw [pullGauge_of_live hl (Bool.eq_false_iff.mpr fun hh => hd (Or.inr (Or.inr hh)))] at h
  refine Or.inr ⟨hend, ?_⟩
  rcases hok.coins with e | ⟨A, hA, e⟩
  · rw [e] at h; cases h
    exact ⟨fun c hc => (by rw [e] at hc; cases hc), Or.inl rfl⟩
  · rw [e, foldlM_singleton] at h
    obtain ⟨x, ex, key⟩ := coinStep_spec h
    obtain ⟨_, a1, a2⟩ := gaugeAmt_on_schedule hl hA
      (hok.released_le hend (c := ("ujkl", A)) (by rw [e]; exact List.mem_singleton_self _))
    dsimp only at ex key a1 a2
    rw [← ex] at a1 a2
    -- exactness, from the escrow balance after the step
    have hx : ∀ b : Bank, bal b g.account "ujkl" = bal st.bank g.account "ujkl" - x → ExactAt b now g := by
      intro b hb c hc
      rw [e, List.mem_singleton] at hc; subst hc
      rw [hb]; exact a2
    rcases key with ⟨hz, rfl, -⟩ | ⟨hp, -, -, ⟨b, hs, rfl⟩ | ⟨hs, -⟩⟩
    · exact ⟨hx _ (by omega), Or.inl rfl⟩
    · have hb := bal_send hs g.account "ujkl"
      rw [amt_single, if_pos rfl, if_neg (Ne.symm hne)] at hb
      exact ⟨hx b (by omega), Or.inr ⟨x, b, by rw [e]; exact List.cons_ne_nil _ _, hs, rfl⟩⟩
    · obtain ⟨b, hb⟩ := send_single (dst := st.moduleAcc) hp a1
      rw [hb] at hs; cases hs

structure PullFx (st st' : State) (now : Int) (kv : String × Gauge) : Prop where
  gauges : st'.gauges = st.gauges ∨ st'.gauges = AMap.erase st.gauges kv.1
  macc : st'.moduleAcc = st.moduleAcc
  /-- only this gauge's escrow account and the module account are touched -/
  other : ∀ a, a ≠ kv.2.account → a ≠ st.moduleAcc → ∀ d, bal st'.bank a d = bal st.bank a d
  /-- a gauge past its end is removed and nothing is transferred -/
  dead : kv.2.endT < now → st'.bank = st.bank ∧ st'.gauges = AMap.erase st.gauges kv.1
  nocoins : kv.2.coins = [] → st'.bank = st.bank
  /-- if the gauge is still stored it has not ended and is exactly on schedule at `now` -/
  self : kv ∈ st'.gauges → now ≤ kv.2.endT ∧ ExactAt st'.bank now kv.2

theorem pullGauge_fx {E : EscrowScheme} {st st' : State} {now : Int} {rel rel' : Coins} {kv : String × Gauge}
    (hinv : GaugeInv E st now) (hkv : kv ∈ st.gauges)
    (h : pullGauge st now rel kv.2 = .ok (st', rel')) : PullFx st st' now kv ∧ GaugeInv E st' now := by
  have hid := (hinv.ids kv hkv).1
  rcases pullGauge_outcome (hinv.ok kv hkv) (hinv.accNe kv hkv).1 h with
    rfl | ⟨hend, hx, rfl | ⟨x, b, hc, hs, rfl⟩⟩
  · refine ⟨⟨Or.inr (by rw [hid]), rfl, fun _ _ _ _ => rfl, fun _ => ⟨rfl, by rw [hid]⟩, fun _ => rfl,
      fun hm => absurd hid.symm (AMap.mem_erase_iff.mp hm).2⟩, hinv.erase _⟩
  · exact ⟨⟨Or.inl rfl, rfl, fun _ _ _ _ => rfl, fun hd => absurd hd (by omega), fun _ => rfl,
      fun _ => ⟨hend, hx⟩⟩, hinv⟩
  · have hother : ∀ a, a ≠ kv.2.account → a ≠ st.moduleAcc → ∀ d, bal b a d = bal st.bank a d :=
      fun a x1 x2 d => bal_send_other hs (Ne.symm x1) (Ne.symm x2) d
    refine ⟨⟨Or.inl rfl, rfl, hother, fun hd => absurd hd (by omega), fun hc' => absurd hc' hc,
      fun _ => ⟨hend, hx⟩⟩, hinv.wf, hinv.ids, hinv.accNe, fun kv' hkv' => ?_,
      hinv.bank.moves (Moves.of_send (P := fun _ => True) trivial hs)⟩
    by_cases ha : kv'.2.account = kv.2.account
    · rw [hinv.same_acc hkv' hkv ha]; exact (hinv.ok kv hkv).of_exact hx
    · exact (hinv.ok kv' hkv').of_bal_ge fun d => Int.le_of_eq (hother _ ha (hinv.accNe kv' hkv').1 d).symm

/-- the loop of `pullTokensFromGauges` over (a suffix of) the gauge store: the invariant is kept,
every gauge of the suffix that is still stored has not ended and is exactly on schedule at the block
time, and accounts of gauges that ended or record nothing, like every account that is neither a
pulled escrow account nor the module account, keep their balances -/
theorem pullGauges_fold_fx {E : EscrowScheme} {now : Int} :
    ∀ (l : List (String × Gauge)) (st : State) (rel : Coins) (st' : State) (rel' : Coins),
      GaugeInv E st now → (l.map (·.1)).Nodup → (∀ kv ∈ l, kv ∈ st.gauges) →
      l.foldlM (fun (acc : State × Coins) kv => pullGauge acc.1 now acc.2 kv.2) (st, rel) = .ok (st', rel') →
      GaugeInv E st' now ∧ st'.moduleAcc = st.moduleAcc ∧ (∀ kv ∈ st'.gauges, kv ∈ st.gauges) ∧
      (∀ kv ∈ st'.gauges, kv ∈ l → now ≤ kv.2.endT ∧ ExactAt st'.bank now kv.2) ∧
      (∀ a, a ≠ st.moduleAcc → (∀ kv ∈ l, kv.2.account = a → kv.2.endT < now ∨ kv.2.coins = []) →
        ∀ d, bal st'.bank a d = bal st.bank a d) := by
  intro l
  induction l with
  | nil =>
    intro st rel st' rel' hinv _ _ h
    cases h
    exact ⟨hinv, rfl, fun _ hkv => hkv, fun _ _ hl => absurd hl List.not_mem_nil, fun _ _ _ _ => rfl⟩
  | cons kv l ih =>
    intro st rel st' rel' hinv hnd hmem h
    obtain ⟨⟨st1, rel1⟩, hp, h⟩ := foldlM_cons_ok h
    have hkv := hmem kv List.mem_cons_self
    obtain ⟨fx, hinv1⟩ := pullGauge_fx hinv hkv hp
    rw [List.map_cons, List.nodup_cons] at hnd
    have hsub : ∀ kv' ∈ st1.gauges, kv' ∈ st.gauges := by
      intro kv' hkv'
      rcases fx.gauges with e | e
      · rwa [e] at hkv'
      · rw [e] at hkv'; exact AMap.mem_erase hkv'
    have hmem1 : ∀ kv' ∈ l, kv' ∈ st1.gauges := by
      intro kv' hkv'
      have hm := hmem kv' (List.mem_cons_of_mem _ hkv')
      rcases fx.gauges with e | e
      · rwa [e]
      · rw [e]; exact AMap.mem_erase_iff.mpr ⟨hm, fun ek => hnd.1 (ek ▸ List.mem_map_of_mem hkv')⟩
    obtain ⟨i1, i2, i3, i4, i5⟩ := ih st1 rel1 st' rel' hinv1 hnd.2 hmem1 h
    refine ⟨i1, i2.trans fx.macc, fun kv' hkv' => hsub kv' (i3 kv' hkv'), fun kv' hkv' hl => ?_, ?_⟩
    · rcases List.mem_cons.mp hl with rfl | hl
      · -- the later pulls are of other gauges, whose escrow accounts are other accounts
        obtain ⟨d1, d2⟩ := fx.self (i3 _ hkv')
        refine ⟨d1, fun c hc => ?_⟩
        rw [i5 _ (fx.macc ▸ (hinv.accNe _ hkv).1) (fun kv2 h2 ha => ?_)]
        · exact d2 c hc
        · have := hinv.same_acc (hmem kv2 (List.mem_cons_of_mem _ h2)) hkv ha
          exact absurd (this ▸ List.mem_map_of_mem h2) hnd.1
      · exact i4 kv' hkv' hl
    · intro a ha hcond d
      rw [i5 a (by rw [fx.macc]; exact ha) (fun kv' hkv' => hcond kv' (List.mem_cons_of_mem _ hkv')) d]
      by_cases ea : kv.2.account = a
      · rcases hcond kv List.mem_cons_self ea with hd | hc
        · rw [(fx.dead hd).1]
        · rw [fx.nocoins hc]
      · exact fx.other a (Ne.symm ea) ha d

/-- the reward path of a block, as far as ledger and gauges are concerned: the file pass touches
neither; after the gauge pass (state `s2`) the invariant holds, every stored gauge has not ended and
is exactly on schedule, and escrow accounts of gauges that ended or record nothing are untouched;
the payouts move coins from the module account to the provers the file pass credited -/
theorem manageRewards_gauges {E : EscrowScheme} {s s' : State} {h now : Int} (hinv : GaugeInv E s now)
    (hs : manageRewards s h now = .ok s') :
    ∃ s2 b, GaugeInv E s2 now ∧ s2.moduleAcc = s.moduleAcc ∧ (∀ kv ∈ s2.gauges, kv ∈ s.gauges) ∧
      (∀ kv ∈ s2.gauges, now ≤ kv.2.endT ∧ ExactAt s2.bank now kv.2) ∧
      (∀ kv ∈ s.gauges, (kv.2.endT < now ∨ kv.2.coins = []) →
        ∀ d, bal s2.bank kv.2.account d = bal s.bank kv.2.account d) ∧
      Sent (· = s.moduleAcc) (fun a => ∃ pw ∈ (filePass h s.files s []).2, pw.1 = a) s2.bank b ∧
      s' = { s2 with bank := b } := by
  obtain ⟨s2, coins, hpg, hpay⟩ := manageRewards_spec hs
  have hc := (sameMoney_filePass h s.files s []).core
  have hinv1 := hinv.sameCore hc
  obtain ⟨e1, e2, e3, -⟩ := hc
  obtain ⟨p1, p2, p3, p4, p5⟩ := pullGauges_fold_fx _ _ [] s2 coins hinv1 hinv1.wf (fun _ hkv => hkv) hpg
  obtain ⟨b, hb, rfl⟩ := payLoop_spec hpay
  rw [e1, e2, e3] at p5; rw [e2] at p3 p4; rw [e3] at p2
  rw [p2] at hb
  refine ⟨s2, b, p1, p2, p3, fun kv hkv => p4 kv hkv (p3 kv hkv), fun kv hkv hd d => p5 _ (hinv.accNe kv hkv).1 ?_ d,
    hb.mono (fun _ ha => ha) fun a ha => ?_, rfl⟩
  · intro kv' hkv' ha
    rw [hinv.same_acc hkv' hkv ha]; exact hd
  · obtain ⟨pw, hpw, rfl⟩ := List.mem_map.mp ha.1
    exact ⟨pw, List.mem_mergeSort.mp hpw, rfl⟩

theorem beginBlock_inv {E : EscrowScheme} {s s' : State} {h now : Int}
    (hinv : GaugeInv E s now) (hb : beginBlock s h now = .ok s') : GaugeInv E s' now := by
  rcases (beginBlock_spec hb).2 with ⟨_, rfl⟩ | ⟨_, hr⟩
  · exact hinv
  · obtain ⟨s2, b, hinv2, hm, _, _, _, hsent, rfl⟩ := manageRewards_gauges hinv hr
    exact hinv2.frame rfl rfl rfl (Moves.of_sent hsent) fun kv hkv => hm ▸ (hinv2.accNe kv hkv).1

/-- `beginBlock_inv` with an extra hypothesis `hs` that the proof does not use -/
theorem beginBlock_gaugeInv {E : EscrowScheme} {s s' : State} {h now : Int} (hs : SizesOkF s.files)
    (hinv : GaugeInv E s now) (hb : beginBlock s h now = .ok s') : GaugeInv E s' now :=
  beginBlock_inv hinv hb

end Canine.Storage
