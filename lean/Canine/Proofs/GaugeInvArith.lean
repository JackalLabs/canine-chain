/-
Gauge invariant for C05: the decimal arithmetic of `pullGauge`.

`ratioAt startT endT t` is the `sdk.Dec` the code computes as `1 − left/total` at block time `t`
(times in ns, cut to whole microseconds by `tdiv 1000` as `UnixMicro` does), `would … A = ratio·A`
the amount that "should have been released by now".  The point (`gaugeAmt_on_schedule`): a gauge that
has withdrawn at most the truncation of `would` releases an amount in `[0, bal]`, after which it has
withdrawn exactly that truncation.
-/
import Canine.Proofs.Block
namespace Canine.Storage.GI

/-- the quotient `left/total` as `Dec.quo?` computes it (raw 18-decimal value) -/
def quoRaw (L T : Int) : Int :=
  chopRound (tdiv ((Dec.ofInt L).raw * precision * precision) (Dec.ofInt T).raw)

/-- `ratio := 1 − left/total` of `pullGauge` at block time `t` for a gauge `[startT, endT]` -/
def ratioAt (startT endT t : Int) : Dec :=
  Dec.sub Dec.one ⟨quoRaw (Int.tdiv endT 1000 - Int.tdiv t 1000) (Int.tdiv endT 1000 - Int.tdiv startT 1000)⟩

/-- what `pullGauge` calls `would`: `ratio·A` -/
def would (startT endT t A : Int) : Dec := Dec.mul (ratioAt startT endT t) (Dec.ofInt A)

theorem quo_eq (L T : Int) (hT : T ≠ 0) :
    Dec.quo? (Dec.ofInt L) (Dec.ofInt T) = some ⟨quoRaw L T⟩ := by
  unfold Dec.quo? quoRaw
  have : ¬ ((Dec.ofInt T).raw = 0) := by
    unfold Dec.ofInt precision; simp only; omega
  simp only [this, if_false]

/-- the division of `pullGauge` is defined as soon as start and end are in different microseconds,
and `Dec.sub Dec.one q` is `ratioAt` -/
theorem quo_ratioAt (startT endT t : Int) (hT : Int.tdiv endT 1000 - Int.tdiv startT 1000 ≠ 0) :
    ∃ q, Dec.quo? (Dec.ofInt (Int.tdiv endT 1000 - Int.tdiv t 1000))
            (Dec.ofInt (Int.tdiv endT 1000 - Int.tdiv startT 1000)) = some q ∧
      Dec.sub Dec.one q = ratioAt startT endT t :=
  ⟨_, quo_eq _ _ hT, rfl⟩

theorem quoRaw_eq (L T : Int) (hL : 0 ≤ L) (hT : 0 < T) : quoRaw L T = rawShare T L := by
  have h := (quo_eq L T (Int.ne_of_gt hT)).symm.trans (quo_ofInt_eq T L hL hT)
  injection h with h; injection h

/-- a gauge seen during its life.  `long`: 1999 ns is the least gap that puts start and end in
different `tdiv 1000` microseconds for either sign (`tdiv1000_strict`; all of (-1000, 1000)
truncates to 0), so the division of `pullGauge` is defined and the total positive -/
structure Live (startT endT t : Int) : Prop where
  started : startT ≤ t
  notEnded : t ≤ endT
  long : startT + 1999 ≤ endT

theorem Live.us {startT endT t : Int} (h : Live startT endT t) :
    0 ≤ Int.tdiv endT 1000 - Int.tdiv t 1000 ∧
    Int.tdiv endT 1000 - Int.tdiv t 1000 ≤ Int.tdiv endT 1000 - Int.tdiv startT 1000 ∧
    0 < Int.tdiv endT 1000 - Int.tdiv startT 1000 := by
  have h1 := tdiv1000_mono h.notEnded
  have h2 := tdiv1000_mono h.started
  have h3 := tdiv1000_strict (a := startT) (b := endT) h.long
  omega

theorem ratioAt_raw {startT endT t : Int} (h : Live startT endT t) :
    (ratioAt startT endT t).raw
      = precision - rawShare (Int.tdiv endT 1000 - Int.tdiv startT 1000) (Int.tdiv endT 1000 - Int.tdiv t 1000) := by
  rw [← quoRaw_eq _ _ h.us.1 h.us.2.2]
  unfold ratioAt Dec.sub Dec.one Dec.ofInt
  simp only [Int.one_mul]

theorem ratioAt_range {startT endT t : Int} (h : Live startT endT t) :
    0 ≤ (ratioAt startT endT t).raw ∧ (ratioAt startT endT t).raw ≤ precision := by
  obtain ⟨u1, u2, u3⟩ := h.us
  have a := rawShare_nonneg _ _ u1 u3
  have b := rawShare_le_one _ _ u3 u2
  rw [ratioAt_raw h]
  omega

theorem ratioAt_start {startT endT : Int} (h : startT + 1999 ≤ endT) : (ratioAt startT endT startT).raw = 0 := by
  have hl : Live startT endT startT := ⟨Int.le_refl _, by omega, h⟩
  rw [ratioAt_raw hl, rawShare_self _ hl.us.2.2]; omega

theorem ratioAt_mono {startT endT t1 t2 : Int} (h1 : Live startT endT t1) (h2 : Live startT endT t2)
    (hle : t1 ≤ t2) : (ratioAt startT endT t1).raw ≤ (ratioAt startT endT t2).raw := by
  have := rawShare_mono _ (Int.tdiv endT 1000 - Int.tdiv t2 1000) (Int.tdiv endT 1000 - Int.tdiv t1 1000)
    h2.us.2.2 (by have := tdiv1000_mono hle; omega)
  rw [ratioAt_raw h1, ratioAt_raw h2]
  omega

theorem would_raw (startT endT t A : Int) :
    (would startT endT t A).raw = (ratioAt startT endT t).raw * A :=
  Dec.mul_ofInt_exact _ _

theorem would_range {startT endT t A : Int} (h : Live startT endT t) (hA : 0 ≤ A) :
    0 ≤ (would startT endT t A).raw ∧ (would startT endT t A).raw ≤ A * precision := by
  obtain ⟨r0, r1⟩ := ratioAt_range h
  rw [would_raw, Int.mul_comm A]
  exact ⟨Int.mul_nonneg r0 hA, Int.mul_le_mul_of_nonneg_right r1 hA⟩

theorem would_mono {startT endT t1 t2 A : Int} (h1 : Live startT endT t1) (h2 : Live startT endT t2)
    (hle : t1 ≤ t2) (hA : 0 ≤ A) : (would startT endT t1 A).raw ≤ (would startT endT t2 A).raw := by
  rw [would_raw, would_raw]
  exact Int.mul_le_mul_of_nonneg_right (ratioAt_mono h1 h2 hle) hA

theorem would_start {startT endT A : Int} (h : startT + 1999 ≤ endT) : (would startT endT startT A).raw = 0 := by
  rw [would_raw, ratioAt_start h, Int.zero_mul]

theorem ofInt_le_iff {w : Dec} (h0 : 0 ≤ w.raw) (x : Int) : (Dec.ofInt x).raw ≤ w.raw ↔ x ≤ Dec.trunc w := by
  rw [Dec.trunc_of_nonneg w h0]
  exact (Int.le_ediv_iff_mul_le precision_pos).symm

theorem zero_le_trunc {w : Dec} (h0 : 0 ≤ w.raw) : 0 ≤ Dec.trunc w :=
  (ofInt_le_iff h0 0).mp (by rw [Dec.ofInt, Int.zero_mul]; exact h0)

theorem trunc_of_raw_zero {w : Dec} (h : w.raw = 0) : Dec.trunc w = 0 := by
  rw [Dec.trunc_of_nonneg w (Int.le_of_eq h.symm), h, Int.zero_ediv]

theorem trunc_mono {a b : Dec} (h0 : 0 ≤ a.raw) (h : a.raw ≤ b.raw) : Dec.trunc a ≤ Dec.trunc b := by
  rw [Dec.trunc_of_nonneg a h0, Dec.trunc_of_nonneg b (Int.le_trans h0 h)]
  exact Int.ediv_le_ediv precision_pos h

theorem trunc_le {w : Dec} {A : Int} (h0 : 0 ≤ w.raw) (h : w.raw ≤ A * precision) : Dec.trunc w ≤ A :=
  Int.le_of_mul_le_mul_right (Int.le_trans (Dec.trunc_bounds w h0).1 h) precision_pos

/-- If what has left the escrow account,
`A − bal`, is at most the truncated `would`, the amount `pullGauge` computes is the difference: it is
non-negative, at most the balance, and after it has left the account the cumulative withdrawal is the
truncated `would`. -/
theorem gaugeAmt_on_schedule {startT endT t A bal : Int} (h : Live startT endT t) (hA : 0 ≤ A)
    (hs : A - bal ≤ Dec.trunc (would startT endT t A)) :
    0 ≤ gaugeAmt (ratioAt startT endT t) A bal ∧ gaugeAmt (ratioAt startT endT t) A bal ≤ bal ∧
    A - (bal - gaugeAmt (ratioAt startT endT t) A bal) = Dec.trunc (would startT endT t A) := by
  obtain ⟨w0, w1⟩ := would_range h hA
  have e : gaugeAmt (ratioAt startT endT t) A bal = Dec.trunc (would startT endT t A) - (A - bal) :=
    Dec.trunc_sub_ofInt_of_le _ _ w0 ((ofInt_le_iff w0 _).mpr hs)
  have := trunc_le w0 w1
  omega

end Canine.Storage.GI
