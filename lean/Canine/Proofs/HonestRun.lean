/-
A prover followed along a whole execution (for `Canine/Props/C02.lean`).  The run is read as a trace of
(state before the event, event) pairs (`runTrace`); `acceptedIn` picks the heights at which a proof of
prover `c` for file `k` was accepted.  `step_local` is one message seen from the proof key `(c, k)`,
`block_back` / `block_keeps_recent` one begin-blocker.  `trace_induct` carries two invariants along the
trace: `CondHeld` (if `(c, k)` is listed, its record exists and its `lastProven` dominates every accepted
height so far) and `Held` (it is listed, with such a record; needs the absence of `removesOtherwise`).
-/
import Canine.Proofs.Consistency
namespace Canine.Storage

/-- `setParams` is a governance write: it carries no block height -/
def Event.height : Event → Option Int
  | .msg h _ _ => some h
  | .block h _ => some h
  | .setParams _ => none

/-- the run from `s` as the list of (state before the event, event); it stops after an event that
fails (a message returning an error, a panicking begin-blocker) -/
def runTrace : State → List Event → List (State × Event)
  | _, [] => []
  | s, e :: evs =>
    (s, e) :: (match applyEvent s e with
               | some s' => runTrace s' evs
               | none => [])

/-- `some h` iff the event is a `postProof` of `c` for the file key `k` delivered at height `h`
whose response says success (the chain accepted the proof) in the state it was delivered in -/
def acceptedAt (c : String) (k : FKey) : State × Event → Option Int
  | (s, .msg h _ (.postProof c' m o st tp v nc)) =>
    if c' = c ∧ (m, o, st) = k ∧ (postProof s h c' m o st tp v nc).success = true then some h else none
  | _ => none

def acceptedIn (c : String) (k : FKey) (tr : List (State × Event)) : List Int :=
  tr.filterMap (acceptedAt c k)

def reportQuorum (s : State) (cr : String) (pk : PKey) : Prop :=
  ∃ form, AMap.get s.reports pk = some form ∧
    ¬ (signForm form.attestations cr).2.2 < s.params.attestMinToPass

/-- The events other than a reward block that can take the listed prover `c` off the file `k` or
delete its proof record (enumerated from `Canine/Storage/Handlers.lean`; `step_local` proves that
there are no others):
* `deleteFile` of that very key (only the owner can name it: the owner is part of the key);
* `postFile` by the owner of the same Merkle root in the file's own start block (`(m, creator, h) = k`):
  `postFile` replaces a same-key file by a fresh one with no provers;
* a `report` against `(c, k)` that completes the quorum of its report form. -/
def removesOtherwise (c : String) (k : FKey) (s : State) : Event → Prop
  | .msg h _ (.postFile cr m _ _ _ _ _ _ _ _ _) => (m, cr, h) = k
  | .msg _ _ (.deleteFile cr m st) => (m, cr, st) = k
  | .msg _ _ (.report cr pr m o st) => pr = c ∧ (m, o, st) = k ∧ reportQuorum s cr (c, k)
  | _ => False

theorem acceptedAt_msg {c : String} {k : FKey} {s : State} {h now : Int} {op : Op} {x : Int}
    (hx : acceptedAt c k (s, .msg h now op) = some x) :
    x = h ∧ ∃ tp v nc, op = .postProof c k.1 k.2.1 k.2.2 tp v nc ∧
      (postProof s h c k.1 k.2.1 k.2.2 tp v nc).success = true := by
  cases op <;> simp only [acceptedAt, reduceCtorEq] at hx
  split at hx
  · rename_i hh
    obtain ⟨rfl, rfl, hsucc⟩ := hh
    cases hx
    exact ⟨rfl, _, _, _, rfl, hsucc⟩
  · cases hx

theorem acceptedAt_postProof {c c' : String} {k : FKey} {s : State} {h now : Int} {m o : String}
    {st tp : Int} {v : Bool} {nc : Int} (hne : (c', (m, o, st)) ≠ (c, k)) :
    acceptedAt c k (s, .msg h now (.postProof c' m o st tp v nc)) = none :=
  if_neg (fun hh => hne (by rw [hh.1, hh.2.1]))

/-- One delivered message seen from the proof key `(c, k)` (`s` before, `s'` after, height `h`).
1. If the message is an accepted proof of `c` for `k`, the record of `(c, k)` exists afterwards with
   `lastProven = h`.
2. If `(c, k)` is listed afterwards then either the message is such an accepted proof, or `(c, k)`
   was listed before (same proof interval) and its record is untouched or rewritten with
   `lastProven = h` (an attestation quorum).
3. If `(c, k)` was listed before and the message is none of `removesOtherwise`, it is listed
   afterwards (same proof interval). -/
def StepLocal (s s' : State) (h now : Int) (op : Op) (c : String) (k : FKey) : Prop :=
    (∀ x, acceptedAt c k (s, .msg h now op) = some x →
      x = h ∧ ∃ p', AMap.get s'.proofs (c, k) = some p' ∧ p'.lastProven = h) ∧
    (∀ f', AMap.get s'.files k = some f' → (c, k) ∈ f'.proofs →
      acceptedAt c k (s, .msg h now op) = some h ∨
      ∃ f, AMap.get s.files k = some f ∧ (c, k) ∈ f.proofs ∧ f'.proofInterval = f.proofInterval ∧
        (AMap.get s'.proofs (c, k) = AMap.get s.proofs (c, k) ∨
          ∃ p', AMap.get s'.proofs (c, k) = some p' ∧ p'.lastProven = h)) ∧
    (∀ f, AMap.get s.files k = some f → (c, k) ∈ f.proofs →
      ¬ removesOtherwise c k s (.msg h now op) →
      ∃ f', AMap.get s'.files k = some f' ∧ (c, k) ∈ f'.proofs ∧ f'.proofInterval = f.proofInterval)

section
variable {s s' : State} {h now : Int} {op : Op} {c : String} {k : FKey}

theorem StepLocal.same (hacc : acceptedAt c k (s, .msg h now op) = none)
    (hfk : AMap.get s'.files k = AMap.get s.files k)
    (hpk : AMap.get s'.proofs (c, k) = AMap.get s.proofs (c, k) ∨
      ∃ p', AMap.get s'.proofs (c, k) = some p' ∧ p'.lastProven = h) : StepLocal s s' h now op c k :=
  ⟨fun _ hx => (nomatch hacc.symm.trans hx),
   fun f' hf' hin => Or.inr ⟨f', hfk ▸ hf', hin, rfl, hpk⟩,
   fun f hf hin _ => ⟨f, hfk.symm ▸ hf, hin, rfl⟩⟩

theorem StepLocal.rewrite {k0 : FKey} {f g : File} (hacc : acceptedAt c k (s, .msg h now op) = none)
    (hf : AMap.get s.files k0 = some f) (e1 : s'.files = AMap.set s.files k0 g)
    (hint : g.proofInterval = f.proofInterval) (hmem : (c, k) ∈ g.proofs ↔ (c, k) ∈ f.proofs)
    (hpk : AMap.get s'.proofs (c, k) = AMap.get s.proofs (c, k)) : StepLocal s s' h now op c k := by
  by_cases hk : k = k0
  · subst hk
    have hg : AMap.get s'.files k = some g := by rw [e1]; exact AMap.get_set_self _ _ _
    exact ⟨fun _ hx => (nomatch hacc.symm.trans hx),
      fun f' hf' hin => by cases hg.symm.trans hf'; exact Or.inr ⟨f, hf, hmem.mp hin, hint, Or.inl hpk⟩,
      fun f1 hf1 hin _ => by cases hf.symm.trans hf1; exact ⟨g, hg, hmem.mpr hin, hint⟩⟩
  · exact .same hacc (by rw [e1]; exact AMap.get_set_ne hk) (Or.inl hpk)

theorem StepLocal.accepted {p' : Proof} (hacc : acceptedAt c k (s, .msg h now op) = some h)
    (hp' : AMap.get s'.proofs (c, k) = some p') (hlp : p'.lastProven = h)
    (hfwd : ∀ f, AMap.get s.files k = some f → (c, k) ∈ f.proofs →
      ∃ f', AMap.get s'.files k = some f' ∧ (c, k) ∈ f'.proofs ∧ f'.proofInterval = f.proofInterval) :
    StepLocal s s' h now op c k :=
  ⟨fun x hx => by cases hacc.symm.trans hx; exact ⟨rfl, p', hp', hlp⟩,
   fun _ _ _ => Or.inl hacc, fun f hf hin _ => hfwd f hf hin⟩

theorem StepLocal.removed (hacc : acceptedAt c k (s, .msg h now op) = none)
    (hgone : ∀ f', AMap.get s'.files k = some f' → (c, k) ∉ f'.proofs)
    (hrem : removesOtherwise c k s (.msg h now op)) : StepLocal s s' h now op c k :=
  ⟨fun _ hx => (nomatch hacc.symm.trans hx),
   fun f' hf' hin => absurd hin (hgone f' hf'), fun _ _ _ hno => absurd hrem hno⟩

end

theorem step_local {s s' : State} {h now : Int} {op : Op} (hc : Consistent s)
    (hs : step s h now op = some s') (c : String) (k : FKey) : StepLocal s s' h now op c k := by
  cases step_storeStep hc.key hs with
  | same e1 e3 hrej =>
    refine .same ?_ (by rw [e1]) (Or.inl (by rw [e3]))
    cases hx : acceptedAt c k (s, .msg h now op) with
    | none => rfl
    | some x =>
      obtain ⟨-, tp, v, nc, rfl, hsucc⟩ := acceptedAt_msg hx
      rw [hrej _ _ _ _ _ _ _ rfl] at hsucc; cases hsucc
  | deleted cr m st =>
    by_cases hk : k = (m, cr, st)
    · subst hk
      exact .removed rfl (fun f' hf' => by rw [removeFile_files_get, if_pos rfl] at hf'; cases hf') rfl
    · exact .same rfl (removeFile_files_other _ _ _ hk) (Or.inl (removeFile_proofs_other hc _ _ hk))
  | posted cr m fs mp ex pt note nv jp gid gacc nf hnil e1 e3 =>
    by_cases hk : k = (m, cr, h)
    · subst hk
      refine .removed rfl (fun f' hf' => ?_) rfl
      rw [e1, AMap.get_set_self] at hf'
      cases hf'; rw [hnil]; exact List.not_mem_nil
    · exact .same rfl
        (by rw [e1, AMap.get_set_ne hk, removeFile_files_other _ _ _ hk])
        (Or.inl (by rw [e3]; exact removeFile_proofs_other hc _ _ hk))
  | proved c' m o st tp nc f p p' hf hl hp hsucc _ hlp e1 e3 =>
    by_cases hpk : (c', (m, o, st)) = (c, k)
    · cases hpk
      exact .accepted (if_pos ⟨rfl, rfl, hsucc⟩) (by rw [e3]; exact AMap.get_set_self _ _ _) hlp
        (fun f1 hf1 hin => ⟨f1, by rw [e1]; exact hf1, hin, rfl⟩)
    · exact .same (acceptedAt_postProof hpk) (by rw [e1])
        (Or.inl (by rw [e3]; exact AMap.get_set_other hpk))
  | joined c' m o st nc f p' hf hl hsucc _ hlp e1 e3 =>
    by_cases hpk : (c', (m, o, st)) = (c, k)
    · cases hpk
      exact .accepted (if_pos ⟨rfl, rfl, hsucc⟩) (by rw [e3]; exact AMap.get_set_self _ _ _) hlp
        (fun f1 hf1 hin => by cases hf.symm.trans hf1; exact absurd hin hl)
    · refine .rewrite (acceptedAt_postProof hpk) hf e1 rfl ?_
        (by rw [e3]; exact AMap.get_set_other hpk)
      exact ⟨fun hin => (List.mem_append.mp hin).elim id
          (fun hin => absurd (List.mem_singleton.mp hin).symm hpk),
        List.mem_append_left _⟩
  | attested cr pr m o st fm p _ _ e1 e3 =>
    by_cases hpk : (fm.prover, fm.merkle, fm.owner, fm.start) = (c, k)
    · exact .same rfl (by rw [e1]) (Or.inr ⟨_, by rw [e3, hpk]; exact AMap.get_set_self _ _ _, rfl⟩)
    · exact .same rfl (by rw [e1]) (Or.inl (by rw [e3]; exact AMap.get_set_other hpk))
  | reported cr pr m o st fm f hg hq hf hl e1 e3 =>
    by_cases hpk : (pr, (m, o, st)) = (c, k)
    · cases hpk
      refine .removed rfl (fun f' hf' hin => ?_) ⟨rfl, rfl, fm, hg, hq⟩
      rw [e1, AMap.get_set_self] at hf'
      cases hf'
      exact absurd rfl (of_decide_eq_true (List.mem_filter.mp hin).2)
    · refine .rewrite rfl hf e1 rfl ?_ (by rw [e3]; exact AMap.get_erase_other hpk)
      exact ⟨fun hin => (List.mem_filter.mp hin).1,
        fun hin => List.mem_filter.mpr ⟨hin, decide_eq_true (Ne.symm hpk)⟩⟩

/-- the begin-blocker at height `h` runs the reward block (`beginBlock`: `h % checkWindow` is not
positive — for the non-negative heights of a chain: `h` is a multiple of the check window) -/
def rewardHeight (s : State) (h : Int) : Prop := ¬ Int.tmod h s.params.checkWindow > 0

theorem beginBlock_cases {s s' : State} {h now : Int} (hb : beginBlock s h now = .ok s') :
    (¬ rewardHeight s h ∧ s' = s) ∨ (rewardHeight s h ∧ manageRewards s h now = .ok s') :=
  (beginBlock_spec hb).2.imp (fun ⟨hpos, e⟩ => ⟨fun hn => hn hpos, e⟩) id

theorem block_back {s s' : State} {h now : Int} (hc : Consistent s)
    (hb : beginBlock s h now = .ok s') (k : FKey) (f' : File) (pk : PKey)
    (hf' : AMap.get s'.files k = some f') (hin : pk ∈ f'.proofs) :
    ∃ f, AMap.get s.files k = some f ∧ pk ∈ f.proofs ∧ f'.proofInterval = f.proofInterval := by
  rcases beginBlock_cases hb with ⟨_, e⟩ | ⟨_, hm⟩
  · subst e; exact ⟨f', hf', hin, rfl⟩
  · obtain ⟨f, hf, hsh⟩ := manageRewards_shrinks hc hm k f' hf'
    refine ⟨f, hf, hsh.2.subset hin, ?_⟩
    rw [hsh.1]

theorem block_keeps_recent {s s' : State} {h now : Int} (hc : Consistent s)
    (hb : beginBlock s h now = .ok s') (k : FKey) (f : File) (pk : PKey)
    (hf : AMap.get s.files k = some f) (hpk : pk ∈ f.proofs)
    (hr : rewardHeight s h → Recent s h f pk) :
    AMap.get s'.proofs pk = AMap.get s.proofs pk ∧
    ∃ f', AMap.get s'.files k = some f' ∧ pk ∈ f'.proofs ∧ f'.proofInterval = f.proofInterval := by
  rcases beginBlock_cases hb with ⟨_, e⟩ | ⟨hrh, hm⟩
  · subst e; exact ⟨rfl, f, hf, hpk, rfl⟩
  · obtain ⟨e, f', hf', hin⟩ := (manageRewards_keep hc hm).provers k f pk hf hpk (hr hrh)
    refine ⟨e, f', hf', hin, ?_⟩
    obtain ⟨f2, hf2, hsh⟩ := manageRewards_shrinks hc hm k f' hf'
    rw [hf] at hf2; cases hf2
    rw [hsh.1]

theorem block_keeps_provider {s s' : State} {h now : Int} (hc : Consistent s)
    (hb : beginBlock s h now = .ok s') (x : String)
    (hx : rewardHeight s h → HonestProvider s h x) :
    AMap.get s'.providers x = AMap.get s.providers x := by
  rcases beginBlock_cases hb with ⟨_, e⟩ | ⟨hrh, hm⟩
  · subst e; rfl
  · exact (manageRewards_keep hc hm).providers x (hx hrh)

def CondHeld (c : String) (k : FKey) (s : State) (A : List Int) : Prop :=
  ∀ f, AMap.get s.files k = some f → (c, k) ∈ f.proofs →
    A ≠ [] ∧ ∃ p, AMap.get s.proofs (c, k) = some p ∧ ∀ x ∈ A, x ≤ p.lastProven

def Held (c : String) (k : FKey) (W : Int) (s : State) (A : List Int) : Prop :=
  ∃ f p, AMap.get s.files k = some f ∧ (c, k) ∈ f.proofs ∧ f.proofInterval = W ∧
    AMap.get s.proofs (c, k) = some p ∧ ∀ x ∈ A, x ≤ p.lastProven

theorem Held.cond {c : String} {k : FKey} {W : Int} {s : State} {A : List Int}
    (h : Held c k W s A) (hne : A ≠ []) : CondHeld c k s A := by
  obtain ⟨f, p, _, _, _, hp, hb⟩ := h
  intro _ _ _
  exact ⟨hne, p, hp, hb⟩

/-- the reward block's window test (the second conjunct of `Recent`), on a file and a candidate
`lastProven` instead of a stored record -/
def WindowOK (h : Int) (f : File) (lp : Int) : Prop :=
  isYoung h f.start f.proofInterval = true ∨ provenLastBlock h f.start f.proofInterval lp = true

theorem condHeld_event {s s' : State} {e : Event} (hc : Consistent s)
    (hs : applyEvent s e = some s') (c : String) (k : FKey) (A : List Int)
    (inv : CondHeld c k s A)
    (hA : ∀ h, e.height = some h → ∀ x ∈ A, x ≤ h)
    (hblock : ∀ h now, e = .block h now → rewardHeight s h →
      ∀ f p, AMap.get s.files k = some f → (c, k) ∈ f.proofs → AMap.get s.proofs (c, k) = some p →
        A ≠ [] → (∀ x ∈ A, x ≤ p.lastProven) → WindowOK h f p.lastProven) :
    CondHeld c k s' (A ++ (acceptedAt c k (s, e)).toList) := by
  cases e with
  | msg h now op =>
    obtain ⟨hacc, hback, _⟩ := step_local hc hs c k
    have hAh := hA h rfl
    intro f' hf' hin
    cases ha : acceptedAt c k (s, .msg h now op) with
    | some x =>
      obtain ⟨hx, p', hp', hlp⟩ := hacc x ha
      subst hx
      refine ⟨by simp, p', hp', ?_⟩
      intro y hy
      simp only [Option.toList, List.mem_append, List.mem_singleton] at hy
      rw [hlp]
      rcases hy with hy | hy
      · exact hAh y hy
      · rw [hy]; exact Int.le_refl _
    | none =>
      rcases hback f' hf' hin with hacc' | ⟨f, hf, hl, _, hrec⟩
      · rw [ha] at hacc'; cases hacc'
      · obtain ⟨hne, p, hp, hb⟩ := inv f hf hl
        simp only [Option.toList, List.append_nil]
        refine ⟨hne, ?_⟩
        rcases hrec with e | ⟨p', hp', hlp⟩
        · exact ⟨p, by rw [e]; exact hp, hb⟩
        · exact ⟨p', hp', fun y hy => by rw [hlp]; exact hAh y hy⟩
  | block h now =>
    show CondHeld c k s' (A ++ [])
    rw [List.append_nil]
    have hb := applyEvent_block hs
    intro f' hf' hin
    obtain ⟨f, hf, hl, _⟩ := block_back hc hb k f' (c, k) hf' hin
    obtain ⟨hne, p, hp, hbd⟩ := inv f hf hl
    have hrec := (block_keeps_recent hc hb k f (c, k) hf hl
      (fun hrh => ⟨p, hp, hblock h now rfl hrh f p hf hl hp hne hbd⟩)).1
    exact ⟨hne, p, by rw [hrec]; exact hp, hbd⟩
  | setParams q =>
    cases hs
    show CondHeld c k _ (A ++ [])
    rw [List.append_nil]
    exact inv

theorem held_event {s s' : State} {e : Event} (hc : Consistent s)
    (hs : applyEvent s e = some s') (c : String) (k : FKey) (W : Int) (A : List Int)
    (inv : Held c k W s A) (hne : A ≠ [])
    (hA : ∀ h, e.height = some h → ∀ x ∈ A, x ≤ h)
    (hno : ¬ removesOtherwise c k s e)
    (hblock : ∀ h now, e = .block h now → rewardHeight s h →
      ∀ f p, AMap.get s.files k = some f → AMap.get s.proofs (c, k) = some p →
        (∀ x ∈ A, x ≤ p.lastProven) → WindowOK h f p.lastProven) :
    Held c k W s' (A ++ (acceptedAt c k (s, e)).toList) := by
  have hcond := condHeld_event hc hs c k A (inv.cond hne) hA
    (fun h now he hrh f p hf _ hp _ hb => hblock h now he hrh f p hf hp hb)
  obtain ⟨f, p, hf, hl, hW, hp, hb⟩ := inv
  have fwd : ∃ f', AMap.get s'.files k = some f' ∧ (c, k) ∈ f'.proofs ∧
      f'.proofInterval = f.proofInterval := by
    cases e with
    | msg h now op => exact (step_local hc hs c k).2.2 f hf hl hno
    | block h now =>
      exact (block_keeps_recent hc (applyEvent_block hs) k f (c, k) hf hl
        (fun hrh => ⟨p, hp, hblock h now rfl hrh f p hf hp hb⟩)).2
    | setParams q =>
      cases hs
      exact ⟨f, hf, hl, rfl⟩
  obtain ⟨f', hf', hl', hW'⟩ := fwd
  obtain ⟨_, p', hp', hb'⟩ := hcond f' hf' hl'
  exact ⟨f', p', hf', hl', hW'.trans hW, hp', hb'⟩

theorem foldlM_cons_some {s s1 s' : State} {e : Event} {evs : List Event}
    (h1 : applyEvent s e = some s1) (h2 : evs.foldlM applyEvent s1 = some s') :
    (e :: evs).foldlM applyEvent s = some s' :=
  run_cons.mpr ⟨s1, h1, h2⟩

theorem trace_cons {s s1 : State} {e : Event} (evs : List Event) (h1 : applyEvent s e = some s1) :
    runTrace s (e :: evs) = (s, e) :: runTrace s1 evs := by
  simp only [runTrace, h1]

/-- induction along a run: an invariant of (current state, trace so far) that holds at the start and
is preserved by every event of the run holds at the end and before every event -/
theorem trace_induct : ∀ (evs : List Event) (Q : State → List (State × Event) → Prop) (s0 s' : State),
    evs.foldlM applyEvent s0 = some s' → Q s0 [] →
    (∀ pre s e post s1, runTrace s0 evs = pre ++ (s, e) :: post → applyEvent s e = some s1 →
      Q s pre → Q s1 (pre ++ [(s, e)])) →
    Q s' (runTrace s0 evs) ∧ ∀ pre s e post, runTrace s0 evs = pre ++ (s, e) :: post → Q s pre := by
  intro evs
  induction evs with
  | nil =>
    intro Q s0 s' hrun h0 _
    cases hrun
    refine ⟨h0, fun pre s e post hsplit => ?_⟩
    cases pre <;> cases hsplit
  | cons e evs ih =>
    intro Q s0 s' hrun h0 hstep
    obtain ⟨s1, h1, h2⟩ := run_cons.mp hrun
    rw [trace_cons evs h1] at hstep ⊢
    -- the rest of the run, with the first event put in front of every trace
    obtain ⟨r1, r2⟩ := ih (fun s pre => Q s ((s0, e) :: pre)) s1 s' h2
      (hstep [] s0 e (runTrace s1 evs) s1 rfl h1 h0)
      (fun pre s e' post s2 hsplit hs hq =>
        hstep ((s0, e) :: pre) s e' post s2 (by rw [hsplit]; rfl) hs hq)
    refine ⟨r1, fun pre s e' post hsplit => ?_⟩
    rcases List.cons_eq_append_iff.mp hsplit with ⟨rfl, hhd⟩ | ⟨pre', rfl, htl⟩
    · cases hhd; exact h0
    · exact r2 pre' s e' post htl

theorem trace_events : ∀ (evs : List Event) (s0 s' : State), evs.foldlM applyEvent s0 = some s' →
    (runTrace s0 evs).map Prod.snd = evs := by
  intro evs
  induction evs with
  | nil => intro s0 s' _; rfl
  | cons e evs ih =>
    intro s0 s' hrun
    obtain ⟨s1, h1, h2⟩ := run_cons.mp hrun
    rw [trace_cons evs h1, List.map_cons, ih s1 s' h2]

theorem acceptedAt_height {c : String} {k : FKey} {se : State × Event} {x : Int}
    (h : acceptedAt c k se = some x) : se.2.height = some x := by
  obtain ⟨s, e⟩ := se
  cases e with
  | msg h1 now op => rw [(acceptedAt_msg h).1]; rfl
  | block h1 now => cases h
  | setParams q => cases h

theorem acceptedIn_append (c : String) (k : FKey) (a b : List (State × Event)) :
    acceptedIn c k (a ++ b) = acceptedIn c k a ++ acceptedIn c k b := by
  simp [acceptedIn, List.filterMap_append]

theorem acceptedIn_single (c : String) (k : FKey) (se : State × Event) :
    acceptedIn c k [se] = (acceptedAt c k se).toList := by
  simp only [acceptedIn, List.filterMap_cons, List.filterMap_nil]
  cases acceptedAt c k se <;> rfl

theorem acceptedIn_heights {c : String} {k : FKey} {tr : List (State × Event)} {x : Int}
    (hx : x ∈ acceptedIn c k tr) : x ∈ (tr.map Prod.snd).filterMap Event.height := by
  obtain ⟨se, hse, hacc⟩ := List.mem_filterMap.mp hx
  exact List.mem_filterMap.mpr ⟨se.2, List.mem_map_of_mem hse, acceptedAt_height hacc⟩

theorem heights_of_split {evs : List Event} {s0 s' : State}
    (hrun : evs.foldlM applyEvent s0 = some s')
    (hmono : (evs.filterMap Event.height).Pairwise (· ≤ ·))
    {pre post : List (State × Event)} {s : State} {e : Event}
    (hsplit : runTrace s0 evs = pre ++ (s, e) :: post) {h : Int} (he : e.height = some h) :
    (∀ x ∈ (pre.map Prod.snd).filterMap Event.height, x ≤ h) ∧
    (∀ x ∈ (post.map Prod.snd).filterMap Event.height, h ≤ x) := by
  have hev := trace_events evs s0 s' hrun
  rw [hsplit, List.map_append, List.map_cons] at hev
  rw [← hev, List.filterMap_append, List.filterMap_cons, he] at hmono
  obtain ⟨-, h2, h3⟩ := List.pairwise_append.mp hmono
  exact ⟨fun x hx => h3 x hx h List.mem_cons_self, (List.pairwise_cons.mp h2).1⟩

theorem accepted_ge_of_split {evs : List Event} {s0 s' : State}
    (hrun : evs.foldlM applyEvent s0 = some s')
    (hmono : (evs.filterMap Event.height).Pairwise (· ≤ ·))
    {pre post : List (State × Event)} {s : State} {e : Event}
    (hsplit : runTrace s0 evs = pre ++ (s, e) :: post) (c : String) (k : FKey) (h : Int)
    (he : e.height = some h) : ∀ x ∈ acceptedIn c k ((s, e) :: post), h ≤ x := by
  intro x hx
  rw [← List.singleton_append, acceptedIn_append] at hx
  rcases List.mem_append.mp hx with hx | hx
  · rw [acceptedIn_single] at hx
    cases he.symm.trans (acceptedAt_height (Option.mem_toList.mp hx))
    exact Int.le_refl _
  · exact (heights_of_split hrun hmono hsplit he).2 x (acceptedIn_heights hx)

theorem event_mem_of_split {evs : List Event} {s0 s' : State}
    (hrun : evs.foldlM applyEvent s0 = some s')
    {pre post : List (State × Event)} {s : State} {e : Event}
    (hsplit : runTrace s0 evs = pre ++ (s, e) :: post) : e ∈ evs := by
  rw [← trace_events evs s0 s' hrun, hsplit]
  exact List.mem_map.mpr ⟨(s, e), List.mem_append_right _ List.mem_cons_self, rfl⟩

theorem bound_of_split {evs : List Event} {s0 s' : State}
    (hrun : evs.foldlM applyEvent s0 = some s')
    (hmono : (evs.filterMap Event.height).Pairwise (· ≤ ·))
    {pre post : List (State × Event)} {s : State} {e : Event}
    (hsplit : runTrace s0 evs = pre ++ (s, e) :: post) {A0 : List Int}
    (hA0 : ∀ x ∈ A0, ∀ h ∈ evs.filterMap Event.height, x ≤ h) (c : String) (k : FKey) :
    ∀ h, e.height = some h → ∀ x ∈ A0 ++ acceptedIn c k pre, x ≤ h := fun h he x hx =>
  (List.mem_append.mp hx).elim
    (fun hx => hA0 x hx h (List.mem_filterMap.mpr ⟨e, event_mem_of_split hrun hsplit, he⟩))
    (fun hx => (heights_of_split hrun hmono hsplit he).1 x (acceptedIn_heights hx))

def runStates (s0 : State) (evs : List Event) (s' : State) : List State :=
  (runTrace s0 evs).map Prod.fst ++ [s']

theorem runStates_cases {s0 s' s : State} {evs : List Event} (h : s ∈ runStates s0 evs s') :
    s = s' ∨ ∃ pre e post, runTrace s0 evs = pre ++ (s, e) :: post := by
  simp only [runStates, List.mem_append, List.mem_map, List.mem_singleton] at h
  rcases h with ⟨se, hse, e⟩ | h
  · obtain ⟨pre, post, hsplit⟩ := List.append_of_mem hse
    obtain ⟨s1, e1⟩ := se
    simp only at e; subst e
    exact Or.inr ⟨pre, e1, post, hsplit⟩
  · exact Or.inl h

/-- `(c, k)` is listed with a record in a consistent state; the run goes
through, heights do not decrease (and are at least the heights `A0` known at the start), no event
of `removesOtherwise` occurs, and at every reward block the window test holds for every `lastProven`
that dominates `A0` and the heights accepted before that block.  Then `(c, k)` is listed with a
record before every event and at the end, and its `lastProven` dominates the accepted heights. -/
theorem held_run (c : String) (k : FKey) (W : Int) (evs : List Event) (s0 s' : State) (A0 : List Int)
    (hc : Consistent s0) (h0 : Held c k W s0 A0) (hne : A0 ≠ [])
    (hrun : evs.foldlM applyEvent s0 = some s')
    (hmono : (evs.filterMap Event.height).Pairwise (· ≤ ·))
    (hA0 : ∀ x ∈ A0, ∀ h ∈ evs.filterMap Event.height, x ≤ h)
    (hno : ∀ se ∈ runTrace s0 evs, ¬ removesOtherwise c k se.1 se.2)
    (hwin : ∀ pre s h now post, runTrace s0 evs = pre ++ (s, .block h now) :: post → rewardHeight s h →
      Consistent s → ∀ f, AMap.get s.files k = some f → f.proofInterval = W →
        ∀ lp, (∀ x ∈ A0 ++ acceptedIn c k pre, x ≤ lp) → WindowOK h f lp) :
    (Consistent s' ∧ Held c k W s' (A0 ++ acceptedIn c k (runTrace s0 evs))) ∧
    ∀ pre s e post, runTrace s0 evs = pre ++ (s, e) :: post →
      Consistent s ∧ Held c k W s (A0 ++ acceptedIn c k pre) := by
  apply trace_induct evs (fun s pre => Consistent s ∧ Held c k W s (A0 ++ acceptedIn c k pre)) s0 s' hrun
  · refine ⟨hc, ?_⟩
    simpa [acceptedIn] using h0
  · intro pre s e post s1 hsplit hs ⟨hcs, hheld⟩
    refine ⟨consistent_event hcs hs, ?_⟩
    rw [acceptedIn_append, acceptedIn_single, ← List.append_assoc]
    apply held_event hcs hs c k W _ hheld
    · intro e0
      exact hne (List.append_eq_nil_iff.mp e0).1
    · exact bound_of_split hrun hmono hsplit hA0 c k
    · exact hno (s, e) (hsplit ▸ List.mem_append_right _ List.mem_cons_self)
    · intro h now he hrh f p hf hp hb
      subst he
      obtain ⟨f1, _, hf1, _, hW1, _, _⟩ := hheld
      rw [hf] at hf1; cases hf1
      exact hwin pre s h now post hsplit hrh hcs f hf hW1 p.lastProven hb

/-- For every file key: if `c` is listed there, its record
exists and dominates the accepted heights — provided that at every reward block the window test
holds, for every file `c` is then listed on, for every `lastProven` that dominates the accepted
heights so far.  No exclusion of other removals is needed: a prover that is taken off a file is no
longer judged on it. -/
theorem condHeld_run (c : String) (evs : List Event) (s0 s' : State) (A0 : FKey → List Int)
    (hc : Consistent s0) (h0 : ∀ k, CondHeld c k s0 (A0 k))
    (hrun : evs.foldlM applyEvent s0 = some s')
    (hmono : (evs.filterMap Event.height).Pairwise (· ≤ ·))
    (hA0 : ∀ k, ∀ x ∈ A0 k, ∀ h ∈ evs.filterMap Event.height, x ≤ h)
    (hwin : ∀ pre s h now post, runTrace s0 evs = pre ++ (s, .block h now) :: post → rewardHeight s h →
      Consistent s → ∀ k f, AMap.get s.files k = some f → (c, k) ∈ f.proofs →
        ∀ lp, A0 k ++ acceptedIn c k pre ≠ [] → (∀ x ∈ A0 k ++ acceptedIn c k pre, x ≤ lp) →
          WindowOK h f lp) :
    (Consistent s' ∧ ∀ k, CondHeld c k s' (A0 k ++ acceptedIn c k (runTrace s0 evs))) ∧
    ∀ pre s e post, runTrace s0 evs = pre ++ (s, e) :: post →
      Consistent s ∧ ∀ k, CondHeld c k s (A0 k ++ acceptedIn c k pre) := by
  apply trace_induct evs
    (fun s pre => Consistent s ∧ ∀ k, CondHeld c k s (A0 k ++ acceptedIn c k pre)) s0 s' hrun
  · refine ⟨hc, fun k => ?_⟩
    simpa [acceptedIn] using h0 k
  · intro pre s e post s1 hsplit hs ⟨hcs, hheld⟩
    refine ⟨consistent_event hcs hs, fun k => ?_⟩
    rw [acceptedIn_append, acceptedIn_single, ← List.append_assoc]
    apply condHeld_event hcs hs c k _ (hheld k)
    · exact bound_of_split hrun hmono hsplit (hA0 k) c k
    · intro h now he hrh f p hf hl _ hne hb
      subst he
      exact hwin pre s h now post hsplit hrh hcs k f hf hl p.lastProven hne hb

theorem honestProvider_of_condHeld {s : State} (hc : Consistent s) (c : String) (h : Int)
    (A : FKey → List Int) (inv : ∀ k, CondHeld c k s (A k))
    (hwin : ∀ k f, AMap.get s.files k = some f → (c, k) ∈ f.proofs →
      ∀ lp, A k ≠ [] → (∀ x ∈ A k, x ≤ lp) → WindowOK h f lp) :
    HonestProvider s h c := by
  intro k f hf pk hpk hpc
  obtain rfl : pk = (c, k) := Prod.ext hpc (hc.listed k f hf pk hpk)
  obtain ⟨hne, p, hp, hb⟩ := inv k f hf hpk
  exact ⟨p, hp, hwin k f hf hpk p.lastProven hne hb⟩

/-- `P pre x` for every element `x` of the list with the elements `pre` before it -/
def ForallSplits {α : Type} (P : List α → α → Prop) : List α → List α → Prop
  | _, [] => True
  | acc, x :: rest => P acc x ∧ ForallSplits P (acc ++ [x]) rest

theorem forallSplits_imp {α : Type} (P : List α → α → Prop) :
    ∀ (l acc : List α), ForallSplits P acc l →
      ∀ pre x post, l = pre ++ x :: post → P (acc ++ pre) x := by
  intro l
  induction l with
  | nil => intro acc _ pre x post h; simp at h
  | cons y rest ih =>
    intro acc hfs pre x post h
    obtain ⟨h1, h2⟩ := hfs
    cases pre with
    | nil =>
      simp only [List.nil_append, List.cons.injEq] at h
      rw [← h.1, List.append_nil]; exact h1
    | cons z pre' =>
      simp only [List.cons_append, List.cons.injEq] at h
      have := ih (acc ++ [y]) h2 pre' x post h.2
      rw [List.append_assoc] at this
      rw [← h.1]; exact this

/-- the messages that create or delete the provider record of `c` (`initProvider` starts the burn
counter at 0, `shutdownProvider` deletes the record); every other message keeps the counter -/
def touchesProviderRecord (c : String) : Event → Prop
  | .msg _ _ (.initProvider cr _ _ _ _) => cr = c
  | .msg _ _ (.shutdownProvider cr) => cr = c
  | _ => False

theorem step_providers {s s' : State} {h now : Int} {op : Op} (hs : step s h now op = some s') :
    s'.providers = s.providers ∨
    (∃ cr ip kb ts iv p, op = .initProvider cr ip kb ts iv ∧ s'.providers = AMap.set s.providers cr p) ∨
    (∃ cr, op = .shutdownProvider cr ∧ s'.providers = AMap.erase s.providers cr) ∨
    (∃ cr p p', AMap.get s.providers cr = some p ∧ p'.burned = p.burned ∧
      s'.providers = AMap.set s.providers cr p') := by
  cases op with
  | postFile =>
    obtain ⟨_, _, _, rfl⟩ := postFile_writes hs
    exact Or.inl (removeFile_providers s _)
  | buyStorage =>
    obtain ⟨_, _, _, rfl⟩ := buyStorage_writes hs
    exact Or.inl rfl
  | initProvider cr ip kb ts iv =>
    obtain ⟨-, -, -, e⟩ := initProvider_spec hs
    exact Or.inr (Or.inl ⟨cr, ip, kb, ts, iv, _, rfl, by rw [e]⟩)
  | shutdownProvider cr =>
    obtain ⟨-, ⟨_, -, -, -, -, e⟩ | ⟨-, e⟩⟩ := shutdownProvider_spec hs <;>
      exact Or.inr (Or.inr (Or.inl ⟨cr, rfl, by rw [e]⟩))
  | setProviderIP | setProviderKeybase | setProviderTotalSpace | addClaimer | removeClaimer =>
    obtain ⟨p, p', hp, -, hb, rfl⟩ := step_setter rfl hs
    exact Or.inr (Or.inr (Or.inr ⟨_, p, p', hp, hb, rfl⟩))
  | deleteFile | postProof | requestAttest | attest | requestReport | report =>
    exact Or.inl (by rw [step_indexOp rfl rfl hs])

/-- no message other than `initProvider`/`shutdownProvider` of `c` itself changes the burn counter of
`c`'s provider record (only the reward block's `burnContract` does) -/
theorem step_burned {s s' : State} {h now : Int} {op : Op}
    (hs : step s h now op = some s') (c : String)
    (hno : ¬ touchesProviderRecord c (.msg h now op)) :
    (AMap.get s'.providers c).map (·.burned) = (AMap.get s.providers c).map (·.burned) := by
  rcases step_providers hs with e | ⟨cr, _, _, _, _, _, rfl, e⟩ | ⟨cr, rfl, e⟩ | ⟨cr, p, p', hp, hb, e⟩
  · rw [e]
  · rw [e, AMap.get_set_other (fun e : cr = c => hno e)]
  · rw [e, AMap.get_erase_other (fun e : cr = c => hno e)]
  · rw [e, AMap.get_set]
    split
    · rename_i e; subst e
      rw [hp, Option.map_some, Option.map_some, hb]
    · rfl

theorem consistent_of_split {evs : List Event} {s0 s' : State} (hc : Consistent s0)
    (hrun : evs.foldlM applyEvent s0 = some s')
    {pre post : List (State × Event)} {s : State} {e : Event}
    (hsplit : runTrace s0 evs = pre ++ (s, e) :: post) : Consistent s :=
  (trace_induct evs (fun s _ => Consistent s) s0 s' hrun hc
    (fun _ _ _ _ _ _ hs hq => consistent_event hq hs)).2 pre s e post hsplit

end Canine.Storage
