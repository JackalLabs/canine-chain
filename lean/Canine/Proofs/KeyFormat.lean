/-
What the injectivity of the `/`-separated store key formats rests on: `%d` of an `int64` as a list
of characters (`decChars`) agrees with `toString`, contains no `/` and is injective; three
`/`-terminated fields are read back off a key.
-/
import Canine.Proofs.Basic
namespace Canine.Storage

/-- `%d` of an `int64` on character lists -/
def decChars : Int → List Char
  | .ofNat n => Nat.toDigits 10 n
  | .negSucc n => '-' :: Nat.toDigits 10 (n + 1)

theorem decChars_eq_toString (i : Int) : (toString i).toList = decChars i := by
  cases i with
  | ofNat n => simp [decChars, toString, Int.repr, Nat.toList_repr]
  | negSucc n => simp [decChars, toString, Int.repr, Nat.toList_repr]

theorem slash_not_in_digits (n : Nat) : '/' ∉ Nat.toDigits 10 n := fun h =>
  absurd (Nat.isDigit_of_mem_toDigits (by decide) (by decide) h) (by decide)

theorem slash_not_in_decChars (i : Int) : '/' ∉ decChars i := by
  cases i with
  | ofNat n => exact slash_not_in_digits n
  | negSucc n =>
    simp only [decChars, List.mem_cons, not_or]
    exact ⟨by decide, slash_not_in_digits _⟩

theorem toDigits_inj {a b : Nat} (h : Nat.toDigits 10 a = Nat.toDigits 10 b) : a = b := by
  have := congrArg (fun l => Nat.ofDigitChars 10 l 0) h
  simpa [Nat.ofDigitChars_ten_toDigits] using this

theorem decChars_inj {i j : Int} (h : decChars i = decChars j) : i = j := by
  have minus : ∀ (a b : Nat), '-' :: Nat.toDigits 10 a ≠ Nat.toDigits 10 b := by
    intro a b e
    have hm : '-' ∈ Nat.toDigits 10 b := by rw [← e]; simp
    exact absurd (Nat.isDigit_of_mem_toDigits (by decide) (by decide) hm) (by decide)
  cases i with
  | ofNat a =>
    cases j with
    | ofNat b => simp only [decChars] at h; rw [toDigits_inj h]
    | negSucc b => simp only [decChars] at h; exact absurd h.symm (minus _ _)
  | negSucc a =>
    cases j with
    | ofNat b => simp only [decChars] at h; exact absurd h (minus _ _)
    | negSucc b =>
      simp only [decChars, List.cons.injEq, true_and] at h
      have := toDigits_inj h
      rw [show a = b by omega]

/-- Both sides hold three separators, so a side whose fields are '/'-free forces the fields of the
other side to be '/'-free as well; then the fields are read off from the left. -/
theorem three_fields_injective {a b d a' b' d' : List Char} (ha' : '/' ∉ a') (hb' : '/' ∉ b')
    (hd' : '/' ∉ d')
    (h : a ++ '/' :: (b ++ '/' :: (d ++ ['/'])) = a' ++ '/' :: (b' ++ '/' :: (d' ++ ['/']))) :
    a = a' ∧ b = b' ∧ d = d' := by
  have hc := congrArg (List.count '/') h
  simp only [List.count_append, List.count_cons, List.count_nil, List.count_eq_zero.mpr ha',
    List.count_eq_zero.mpr hb', List.count_eq_zero.mpr hd', beq_self_eq_true, if_true] at hc
  have h1 := prefix_unique a a' _ _ (List.count_eq_zero.mp (by omega)) ha' h
  have h2 := prefix_unique b b' _ _ (List.count_eq_zero.mp (by omega)) hb' h1.2
  have h3 := prefix_unique d d' [] [] (List.count_eq_zero.mp (by omega)) hd' h2.2
  exact ⟨h1.1, h2.1, h3.1⟩

end Canine.Storage
