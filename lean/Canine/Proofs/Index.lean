/-
The index invariant of C17 (both file indexes agree, a file sits under its own key, its prover list
is duplicate-free, bounded and backed by records) and its preservation by every handler and by the
reward block; the relation "same indexes" for the code paths that write none of them; histories of
messages and blocks.
-/
import Canine.Proofs.Block
import Canine.Proofs.KeyFormat
namespace Canine

namespace Storage

/-- what the invariant says about one stored file `f` found under key `k`, relative to the
proof-record store `P` -/
def FileOK (P : AMap PKey Proof) (k : FKey) (f : File) : Prop :=
  f.key = k ∧ f.proofs.Nodup ∧ (f.proofs.length : Int) ≤ f.maxProofs ∧
    ∀ pk ∈ f.proofs, pk.2 = k ∧
      ∃ p, AMap.get P pk = some p ∧ p.prover = pk.1 ∧ (p.merkle, p.owner, p.start) = k

/-- the C17 invariant (unfolded verbatim in `C17_IndexInv_iff`) -/
structure IndexInv (s : State) : Prop where
  wfFiles : AMap.WF s.files
  wfFiles2 : AMap.WF s.files2
  wfProofs : AMap.WF s.proofs
  same : ∀ k, AMap.get s.files k = AMap.get s.files2 k
  ok : ∀ k f, AMap.get s.files k = some f → FileOK s.proofs k f

/-- a file's clause only looks at the records whose key points at that file -/
theorem FileOK.congr {P P' : AMap PKey Proof} {k : FKey} {f : File}
    (h : FileOK P k f) (hP : ∀ pk, pk.2 = k → pk ∈ f.proofs → AMap.get P' pk = AMap.get P pk) :
    FileOK P' k f := by
  obtain ⟨h1, h2, h3, h4⟩ := h
  refine ⟨h1, h2, h3, ?_⟩
  intro pk hpk
  obtain ⟨e, p, hp, r⟩ := h4 pk hpk
  exact ⟨e, p, by rw [hP pk e hpk]; exact hp, r⟩

theorem IndexInv.frame {s s' : State} (h : IndexInv s) (e1 : s'.files = s.files)
    (e2 : s'.files2 = s.files2) (e3 : s'.proofs = s.proofs) : IndexInv s' := by
  obtain ⟨a, b, c, d, e⟩ := h
  exact ⟨by rw [e1]; exact a, by rw [e2]; exact b, by rw [e3]; exact c,
    by rw [e1, e2]; exact d, by rw [e1, e3]; exact e⟩

/-- the file/record stores, the forms and the parameters of two states coincide (what the
bank-, provider-, gauge- and plan-only code paths guarantee) -/
structure SameIdx (s s' : State) : Prop where
  files : s'.files = s.files
  files2 : s'.files2 = s.files2
  proofs : s'.proofs = s.proofs
  attests : s'.attests = s.attests
  reports : s'.reports = s.reports
  params : s'.params = s.params

theorem IndexInv.ofSame {s s' : State} (h : IndexInv s) (e : SameIdx s s') : IndexInv s' :=
  h.frame e.1 e.2 e.3

theorem IndexInv.removeFile {s : State} (h : IndexInv s) (k : FKey) : IndexInv (removeFile s k) := by
  cases hg : AMap.get s.files k with
  | none => rw [removeFile_none hg]; exact h
  | some f =>
    rw [removeFile_some hg]
    refine ⟨AMap.wf_erase _ h.wfFiles, AMap.wf_erase _ h.wfFiles2, AMap.wf_foldl_erase _ _ h.wfProofs,
      fun k' => by simp only [AMap.get_erase, h.same], AMap.forall_erase_of_ne fun k' f' hne hf' => ?_⟩
    -- a record erased with `f` is keyed by `k`, so no other file's clause reads it
    refine (h.ok k' f' hf').congr fun pk hpk _ => ?_
    rw [AMap.get_foldl_erase, if_neg]
    exact fun hm => hne (hpk.symm.trans ((h.ok k f hg).2.2.2 pk hm).1)

theorem IndexInv.setFile {s : State} (h : IndexInv s) (f : File) (P' : AMap PKey Proof)
    (hwf : AMap.WF P') (hf : FileOK P' f.key f)
    (hP : ∀ pk, pk.2 ≠ f.key → AMap.get P' pk = AMap.get s.proofs pk) :
    IndexInv { setFile s f with proofs := P' } :=
  ⟨AMap.wf_set _ _ h.wfFiles, AMap.wf_set _ _ h.wfFiles2, hwf,
    fun k => by simp only [Storage.setFile, AMap.get_set, h.same],
    AMap.forall_set_of_ne (fun k f' hne hf' =>
      (h.ok k f' hf').congr fun pk hpk _ => hP pk (by rw [hpk]; exact hne)) hf⟩

theorem setFile_files_get (s : State) (f : File) (k : FKey) :
    AMap.get (setFile s f).files k = if f.key = k then some f else AMap.get s.files k := by
  simp only [setFile, AMap.get_set]

theorem removeProver_spec {s : State} {f : File} (pk : PKey) (h : IndexInv s)
    (hf : AMap.get s.files f.key = some f) :
    IndexInv (removeProver s f pk).1 ∧
    AMap.get (removeProver s f pk).1.files f.key = some (removeProver s f pk).2 ∧
    (removeProver s f pk).2.key = f.key := by
  rw [removeProver_eq]
  split
  · rename_i hmem
    obtain ⟨-, k2, k3, k4⟩ := h.ok _ _ hf
    refine ⟨h.setFile _ _ (AMap.wf_erase _ h.wfProofs)
        ⟨rfl, k2.sublist List.filter_sublist, ?_, fun x hx => ?_⟩ fun x hx => ?_,
      AMap.get_set_self _ _ _, rfl⟩
    · have := List.length_filter_le (fun x => decide (x ≠ pk)) f.proofs
      show ((List.filter (fun x => decide (x ≠ pk)) f.proofs).length : Int) ≤ f.maxProofs
      omega
    · simp only [List.mem_filter, decide_eq_true_eq] at hx
      obtain ⟨e, p, hp, r⟩ := k4 x hx.1
      exact ⟨e, p, by rw [AMap.get_erase_ne hx.2]; exact hp, r⟩
    · exact AMap.get_erase_other fun e => hx (e ▸ (k4 pk hmem).1)
  · exact ⟨h, hf, rfl⟩

theorem IndexInv.setProof {s : State} (h : IndexInv s) (pk : PKey) {p : Proof} (p' : Proof)
    (hp : AMap.get s.proofs pk = some p) (e1 : p'.prover = p.prover) (e2 : p'.merkle = p.merkle)
    (e3 : p'.owner = p.owner) (e4 : p'.start = p.start) :
    IndexInv { s with proofs := AMap.set s.proofs pk p' } := by
  refine ⟨h.wfFiles, h.wfFiles2, AMap.wf_set _ _ h.wfProofs, h.same, fun k f hf => ?_⟩
  obtain ⟨k1, k2, k3, k4⟩ := h.ok k f hf
  refine ⟨k1, k2, k3, fun x hx => ?_⟩
  obtain ⟨ex, p0, hp0, r1, r2⟩ := k4 x hx
  refine ⟨ex, ?_⟩
  show ∃ q, AMap.get (AMap.set s.proofs pk p') x = some q ∧ _
  by_cases hxe : pk = x
  · subst hxe
    rw [hp] at hp0; cases hp0
    exact ⟨p', AMap.get_set_self _ _ _, by rw [e1]; exact r1, by rw [e2, e3, e4]; exact r2⟩
  · exact ⟨p0, by rw [AMap.get_set_other hxe]; exact hp0, r1, r2⟩

theorem IndexInv.postProof {s : State} (hinv : IndexInv s) (h : Int) (c m o : String) (st tp : Int)
    (v : Bool) (nc : Int) : IndexInv (postProof s h c m o st tp v nc).state := by
  rcases postProof_outcome s h c m o st tp v nc with
    e | ⟨f, p, -, -, hp, -, -, e⟩ | ⟨f, hf, hl, hlen, -, -, e⟩
  · rw [e]; exact hinv
  · rw [e]; exact hinv.setProof _ (renewed s h nc f p) hp rfl rfl rfl rfl
  · rw [e]
    obtain ⟨k1, k2, k3, k4⟩ := hinv.ok _ _ hf
    refine hinv.setFile _ _ (AMap.wf_set _ _ hinv.wfProofs) ⟨rfl, ?_, ?_, fun y hy => ?_⟩
      fun y hy => AMap.get_set_other fun e => hy (e ▸ rfl)
    · show (f.proofs ++ [(c, f.key)]).Nodup
      rw [List.nodup_append]
      refine ⟨k2, by simp, fun a ha b hb => ?_⟩
      rw [List.mem_singleton.mp hb]
      exact fun e => hl (e ▸ ha)
    · show (((f.proofs ++ [(c, f.key)]).length : Nat) : Int) ≤ f.maxProofs
      simp only [List.length_append, List.length_singleton]; omega
    · rcases List.mem_append.mp hy with hy' | hy'
      · obtain ⟨ey, p0, hp0, r⟩ := k4 y hy'
        refine ⟨by rw [ey]; exact k1.symm, p0, ?_, r.1, by rw [r.2]; exact k1.symm⟩
        rw [AMap.get_set_other (fun e => hl (by rw [e]; exact hy'))]; exact hp0
      · rw [List.mem_singleton.mp hy']
        exact ⟨rfl, _, AMap.get_set_self _ _ _, rfl, rfl⟩

theorem IndexInv.attest {s : State} (hinv : IndexInv s) (h : Int) (c pr m o : String) (st : Int) :
    IndexInv (attest s h c pr m o st) := by
  obtain ⟨e1, e2, -, -, ⟨e3, -⟩ | ⟨form, f, p, -, -, -, hp, e3, -⟩⟩ := attest_frame s h c pr m o st
  · exact hinv.frame e1 e2 e3
  · exact (hinv.setProof _ { p with lastProven := h } hp rfl rfl rfl rfl).frame e1 e2 e3

theorem IndexInv.postFile {s s' : State} {h now : Int} {c m : String} {fs mp ex pt : Int} {note : String}
    {nv : Bool} {jp : Dec} {gid gacc : String} (hinv : IndexInv s)
    (hs : postFile s h now c m fs mp ex pt note nv jp gid gacc = some s') : IndexInv s' := by
  have hmp := (postFile_spec hs).2.2.1
  have h0 := hinv.removeFile (m, c, h)
  obtain ⟨_, _, _, rfl⟩ := postFile_writes hs
  exact (h0.setFile (newFile s h c m fs mp ex pt note) _ h0.wfProofs
    ⟨rfl, List.nodup_nil, show ((0 : Nat) : Int) ≤ mp by omega, fun _ hpk => nomatch hpk⟩
    (fun _ _ => rfl)).frame rfl rfl rfl

theorem IndexInv.report {s s' : State} {c pr m o : String} {st : Int} (hinv : IndexInv s)
    (hs : report s c pr m o st = some s') : IndexInv s' := by
  obtain ⟨form, -, -, ⟨-, e⟩ | ⟨-, f, hf, e⟩⟩ := report_cases hs
  · rw [e]; exact hinv.frame rfl rfl rfl
  · have h1 : IndexInv { s with reports := AMap.erase s.reports (pr, (m, o, st)) } := hinv.frame rfl rfl rfl
    rw [e]
    exact (removeProver_spec (f := f) (pr, f.key) h1 (by rw [(hinv.ok _ _ hf).1]; exact hf)).1

theorem sameIdx_burnContract (s : State) (p : String) : SameIdx s (burnContract s p) := by
  rw [burnContract_writes]; exact ⟨rfl, rfl, rfl, rfl, rfl, rfl⟩

/-- what one `manageProof` call keeps: the invariant, "the carried file is the stored one", and all
other files -/
structure Carried (k : FKey) (s0 : State) (s : State) (f : File) : Prop where
  inv : IndexInv s
  stored : AMap.get s.files k = some f
  key : f.key = k
  others : ∀ k', k' ≠ k → AMap.get s.files k' = AMap.get s0.files k'

theorem Carried.removeProver {k : FKey} {s0 s : State} {f : File} (c : Carried k s0 s f) (pk : PKey) :
    Carried k s0 (removeProver s f pk).1 (removeProver s f pk).2 := by
  obtain ⟨i, st, ky, ot⟩ := c
  subst ky
  obtain ⟨a, b, c⟩ := removeProver_spec pk i st
  refine ⟨a, b, c, fun k' hk' => ?_⟩
  rw [← ot k' hk', removeProver_eq]
  split
  · exact AMap.get_set_ne hk'
  · rfl

theorem Carried.same {k : FKey} {s0 s s' : State} {f : File} (c : Carried k s0 s f) (e : SameIdx s s') :
    Carried k s0 s' f :=
  ⟨c.inv.ofSame e, by rw [e.1]; exact c.stored, c.key, by rw [e.1]; exact c.others⟩

theorem Carried.manageProof {k : FKey} {s0 s : State} {f : File} (c : Carried k s0 s f) (h : Int)
    (t : Tracker) (pk : PKey) : Carried k s0 (manageProof s h t f pk).1 (manageProof s h t f pk).2.2 := by
  rw [manageProof_eq]
  split
  · exact c
  · dsimp only; split
    · exact (c.removeProver pk).same (sameIdx_burnContract _ _)
    · exact c.removeProver pk

theorem IndexInv.manageFile {s : State} (hinv : IndexInv s) (h : Int) (t : Tracker) (f : File)
    (hf : AMap.get s.files f.key = some f) : IndexInv (manageFile s h t f).1 := by
  rw [manageFile_eq]
  dsimp only
  split
  · rename_i hc
    have he : f.proofs = [] := by
      simp only [Bool.and_eq_true, List.isEmpty_iff] at hc; exact hc.1
    simp only [he, runProofs, List.foldl_nil]
    exact hinv.removeFile _
  · exact (foldl_inv (fun (acc : State × Tracker × File) => Carried f.key s acc.1 acc.2.2)
      (fun (acc : State × Tracker × File) pk => manageProof acc.1 h acc.2.1 acc.2.2 pk)
      (fun acc pk c => c.manageProof h acc.2.1 pk) f.proofs (s, t, f) ⟨hinv, hf, rfl, fun _ _ => rfl⟩).inv

theorem IndexInv.filePass {s : State} (hinv : IndexInv s) (h : Int) : IndexInv (filePass h s.files s []).1 :=
  filePass_stored_ind (fun a => IndexInv a.1) h hinv.wfFiles
    (fun kv hkv => (hinv.ok _ _ (AMap.get_of_mem_wf hinv.wfFiles hkv)).1)
    (fun a kv _ hg hi => hi.manageFile h a.2 kv.2 (by rw [(hi.ok _ _ hg).1]; exact hg)) hinv

theorem indexInv_beginBlock {s s' : State} {h now : Int}
    (hs : beginBlock s h now = .ok s') (hinv : IndexInv s) : IndexInv s' := by
  rcases beginBlock_stores hs with rfl | ⟨b, gs, rfl⟩
  · exact hinv
  · exact (hinv.filePass h).frame rfl rfl rfl

theorem sameIdx_step_other {s s' : State} {h now : Int} {op : Op} (hop : op.isStoreOp = false)
    (hstep : step s h now op = some s') : SameIdx s s' := by
  rw [step_otherOp hop hstep]; exact ⟨rfl, rfl, rfl, rfl, rfl, rfl⟩

theorem indexInv_step {s s' : State} {h now : Int} {op : Op} (hstep : step s h now op = some s')
    (hinv : IndexInv s) : IndexInv s' := by
  cases op with
  | postFile c m fs mp ex pt note nv jp gid gacc => exact hinv.postFile hstep
  | deleteFile c m st => cases hstep; exact hinv.removeFile _
  | postProof c m o st tp v nc => cases hstep; exact hinv.postProof ..
  | attest c p m o st => cases hstep; exact hinv.attest ..
  | report c p m o st => exact hinv.report hstep
  | requestAttest c m o st ec ch | requestReport c p m o st ec ch =>
    cases hstep
    split
    · exact hinv.frame rfl rfl rfl
    · exact hinv
  | _ => exact hinv.ofSame (sameIdx_step_other rfl hstep)

/-- One event of a chain history: a delivered storage message or a block boundary.  `applyEv` is
total and there are no parameter changes; C14, C17 and (inside `SI.HEv`) C19 run over these.  `Event` /
`applyEvent` of Proofs/Consistency.lean is the partial variant (`none` on a failed message or a
panicking block) with a `setParams` event, used by C01, C02, C15 and Proofs/HonestRun.lean. -/
inductive Ev where
  | msg (h now : Int) (op : Op)
  | block (h now : Int)
  deriving Repr

/-- a failed message commits nothing; a panicking block is not committed either -/
def applyEv (s : State) : Ev → State
  | .msg h now op => (step s h now op).getD s
  | .block h now =>
    match beginBlock s h now with
    | .ok s' => s'
    | .error _ => s

def runEvs (s : State) (evs : List Ev) : State := evs.foldl applyEv s

theorem applyEv_inv (P : State → Prop) {s : State} (ev : Ev) (hp : P s)
    (hmsg : ∀ h now op s', ev = .msg h now op → step s h now op = some s' → P s')
    (hblk : ∀ h now s', ev = .block h now → beginBlock s h now = .ok s' → P s') : P (applyEv s ev) := by
  cases ev with
  | msg h now op => exact getD_inv hp (hmsg h now op · rfl)
  | block h now =>
    simp only [applyEv]
    cases hs : beginBlock s h now with
    | error e => exact hp
    | ok s' => exact hblk h now s' rfl hs

/-- the message case may use that the message is one of the history -/
theorem runEvs_inv (P : State → Prop) (evs : List Ev)
    (hmsg : ∀ s h now op s', Ev.msg h now op ∈ evs → P s → step s h now op = some s' → P s')
    (hblk : ∀ s h now s', P s → beginBlock s h now = .ok s' → P s') (s : State) (hp : P s) :
    P (runEvs s evs) :=
  foldl_inv_mem P applyEv evs (fun s ev hev hp => applyEv_inv P ev hp
    (fun h now op s' e => hmsg s h now op s' (e ▸ hev) hp) (fun h now s' _ => hblk s h now s' hp)) s hp

def emptyIdx (s : State) : Prop := s.files = [] ∧ s.files2 = [] ∧ s.proofs = []

theorem indexInv_empty {s : State} (h : emptyIdx s) : IndexInv s := by
  obtain ⟨a, b, c⟩ := h
  refine ⟨by rw [a]; exact AMap.wf_nil, by rw [b]; exact AMap.wf_nil, by rw [c]; exact AMap.wf_nil, ?_, ?_⟩
  · intro k; rw [a, b]
  · intro k f hf; rw [a] at hf; cases hf

end Storage
end Canine
