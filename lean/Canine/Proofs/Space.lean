/-
The space invariant of C07: each plan's `spaceUsed` is the total footprint of the plan-paid files its
address holds.  On the way, for C07 and for C05 (the reward block never panics) alike:
which of files, plans and parameters each message and each step of the reward block can write.
-/
import Canine.Proofs.Block
namespace Canine.Storage

/-- the bytes a file reserves in its owner's plan: `FileSize * MaxProofs` -/
def footprint (f : File) : Int := f.fileSize * f.maxProofs

/-- what file `f` counts against the plan of address `a`: its footprint if `a` owns it and it is
plan-paid (`Expires ≤ 0`), nothing otherwise -/
def planFoot (a : String) (f : File) : Int := if f.owner = a ∧ f.expires ≤ 0 then footprint f else 0

def usedIn (files : AMap FKey File) (a : String) : Int := AMap.sumBy (planFoot a) files

def usedBy (s : State) (a : String) : Int := usedIn s.files a

/-- `SpaceInv` on the two stores it speaks about.  `fileOk`: sizes are positive because `PostFile`
refuses `FileSize < 1 || MaxProofs < 1` (msg_server_post_file.go); it makes every usage a sum of
non-negative footprints.  `hasPlan`: a plan-paid `postFile` fails without a plan record and no
handler deletes one; without it `RemoveFile` (files.go) would skip the credit silently. -/
structure SpaceInvFP (F : AMap FKey File) (P : AMap String PayInfo) : Prop where
  wfF : AMap.WF F
  wfP : AMap.WF P
  fileOk : ∀ k f, AMap.get F k = some f → k = f.key ∧ 1 ≤ f.fileSize ∧ 1 ≤ f.maxProofs
  planOk : ∀ a pi, AMap.get P a = some pi →
    pi.address = a ∧ pi.spaceUsed = usedIn F a ∧ 0 ≤ pi.spaceUsed ∧ pi.spaceUsed ≤ pi.spaceAvailable
  hasPlan : ∀ k f, AMap.get F k = some f → f.expires ≤ 0 → (AMap.get P f.owner).isSome = true

/-- C07's invariant: every plan record's `spaceUsed` is exactly the total footprint of the
plan-paid files its address holds (and fits in the plan); every plan-paid file has a plan record. -/
def SpaceInv (s : State) : Prop := SpaceInvFP s.files s.payinfo

theorem footprint_pos {f : File} (h1 : 1 ≤ f.fileSize) (h2 : 1 ≤ f.maxProofs) : 1 ≤ footprint f := by
  unfold footprint
  have := Int.mul_le_mul h1 h2 (by omega) (by omega)
  omega

theorem owner_of_inv {s : State} (hinv : SpaceInv s) {m c : String} {st : Int} {f : File}
    (hg : AMap.get s.files (m, c, st) = some f) : f.owner = c :=
  (congrArg (fun k : FKey => k.2.1) (hinv.fileOk _ f hg).1).symm

theorem planFoot_payonce {f : File} (h : 0 < f.expires) (a : String) : planFoot a f = 0 :=
  if_neg fun hc => Int.not_le.mpr h hc.2

theorem planFoot_plan {f : File} (h : f.expires ≤ 0) (a : String) :
    planFoot a f = if f.owner = a then footprint f else 0 := by
  simp only [planFoot, h, and_true]

theorem planFoot_nonneg_of {F : AMap FKey File} {P} (hinv : SpaceInvFP F P) (a : String) :
    ∀ p ∈ F, 0 ≤ planFoot a p.2 := by
  intro p hp
  obtain ⟨_, h1, h2⟩ := hinv.fileOk p.1 p.2 (AMap.get_of_mem_wf hinv.wfF hp)
  have := footprint_pos h1 h2
  simp only [planFoot]; split <;> omega

theorem usedIn_erase {F : AMap FKey File} (hwf : AMap.WF F) (k : FKey) (f : File)
    (hg : AMap.get F k = some f) (a : String) :
    usedIn (AMap.erase F k) a = usedIn F a - planFoot a f := by
  unfold usedIn
  rw [AMap.sumBy_erase _ _ hwf, hg]; simp

theorem usedIn_set_new {F : AMap FKey File} (hwf : AMap.WF F) (k : FKey) (f : File)
    (hg : AMap.get F k = none) (a : String) :
    usedIn (AMap.set F k f) a = usedIn F a + planFoot a f := by
  unfold usedIn
  rw [AMap.sumBy_set _ _ _ hwf, hg]; simp

theorem usedIn_set_same {F : AMap FKey File} (hwf : AMap.WF F) (k : FKey) (f f' : File)
    (hg : AMap.get F k = some f) (a : String) (he : planFoot a f' = planFoot a f) :
    usedIn (AMap.set F k f') a = usedIn F a := by
  unfold usedIn
  rw [AMap.sumBy_set _ _ _ hwf, hg, he]; simp

theorem SpaceInvFP.planOk_move {F F' : AMap FKey File} {P} (hinv : SpaceInvFP F P) {o : String}
    {pi : PayInfo} {d : Int} (hpi : AMap.get P o = some pi)
    (hu : ∀ a, usedIn F' a = usedIn F a + if o = a then d else 0)
    (h0 : 0 ≤ pi.spaceUsed + d) (hfit : pi.spaceUsed + d ≤ pi.spaceAvailable) :
    ∀ a pi2, AMap.get (AMap.set P o { pi with spaceUsed := pi.spaceUsed + d }) a = some pi2 →
      pi2.address = a ∧ pi2.spaceUsed = usedIn F' a ∧ 0 ≤ pi2.spaceUsed ∧ pi2.spaceUsed ≤ pi2.spaceAvailable := by
  obtain ⟨g1, g2, -, -⟩ := hinv.planOk _ pi hpi
  refine AMap.forall_set_of_ne (fun a pi2 hne hpi2 => ?_) ⟨g1, ?_, h0, hfit⟩
  · obtain ⟨q1, q2, q3, q4⟩ := hinv.planOk a pi2 hpi2
    exact ⟨q1, by rw [hu, if_neg (Ne.symm hne), Int.add_zero]; exact q2, q3, q4⟩
  · rw [hu, if_pos rfl, ← g2]

/-- removing a file and returning its footprint to the plan: the floor at 0 in `RemoveFile`
(files.go) is never reached -/
theorem SpaceInvFP.remove {F P} (hinv : SpaceInvFP F P) {k : FKey} {f : File}
    (hg : AMap.get F k = some f) :
    (0 < f.expires → SpaceInvFP (AMap.erase F k) P) ∧
    (f.expires ≤ 0 → ∃ pi, AMap.get P f.owner = some pi ∧ pi.address = f.owner ∧
        footprint f ≤ pi.spaceUsed ∧
        SpaceInvFP (AMap.erase F k)
          (AMap.set P f.owner { pi with spaceUsed := pi.spaceUsed - footprint f })) := by
  have hfile := AMap.forall_erase hinv.fileOk k
  have hplan := AMap.forall_erase hinv.hasPlan k
  have hu := usedIn_erase hinv.wfF k f hg
  constructor
  · intro hpos
    refine ⟨AMap.wf_erase _ hinv.wfF, hinv.wfP, hfile, fun a pi hpi => ?_, hplan⟩
    rw [hu, planFoot_payonce hpos, Int.sub_zero]
    exact hinv.planOk a pi hpi
  · intro hle
    obtain ⟨pi, hpi⟩ := Option.isSome_iff_exists.mp (hinv.hasPlan k f hg hle)
    obtain ⟨h1, h2, h3, h4⟩ := hinv.planOk _ pi hpi
    have hfp := footprint_pos (hinv.fileOk k f hg).2.1 (hinv.fileOk k f hg).2.2
    have hge : footprint f ≤ pi.spaceUsed := by
      -- what the other files of the owner use is non-negative
      have h0 : 0 ≤ usedIn (AMap.erase F k) f.owner :=
        AMap.sumBy_nonneg _ fun p hp => planFoot_nonneg_of hinv f.owner p (AMap.mem_erase hp)
      rw [hu, planFoot_plan hle, if_pos rfl] at h0
      omega
    refine ⟨pi, hpi, h1, hge, AMap.wf_erase _ hinv.wfF, AMap.wf_set _ _ hinv.wfP, hfile, ?_,
      fun k2 f2 h2 hle2 => AMap.get_set_isSome (hplan k2 f2 h2 hle2)⟩
    refine hinv.planOk_move (d := -footprint f) hpi (fun a => ?_) (by omega) (by omega)
    rw [hu, planFoot_plan hle]; split <;> omega

/-- `removeFile` on a stored file computes exactly that.  So the invariant holds afterwards; a
pay-once file leaves the plan records alone; a plan-paid file gives its footprint back to its
owner's plan and touches nobody else's. -/
theorem removeFile_effect {s : State} (hinv : SpaceInv s) {k : FKey} {f : File}
    (hg : AMap.get s.files k = some f) :
    SpaceInv (removeFile s k) ∧
    (∀ a, a ≠ f.owner → AMap.get (removeFile s k).payinfo a = AMap.get s.payinfo a) ∧
    (0 < f.expires → (removeFile s k).payinfo = s.payinfo) ∧
    (f.expires ≤ 0 → ∃ pi, AMap.get s.payinfo f.owner = some pi ∧ footprint f ≤ pi.spaceUsed ∧
        AMap.get (removeFile s k).payinfo f.owner =
          some { pi with spaceUsed := pi.spaceUsed - footprint f } ∧
        usedBy (removeFile s k) f.owner = usedBy s f.owner - footprint f) := by
  obtain ⟨r1, r2⟩ := hinv.remove hg
  rw [removeFile_some hg]
  by_cases hle : f.expires ≤ 0
  · obtain ⟨pi, hpi, haddr, hge, hi⟩ := r2 hle
    have e : refund s f = AMap.set s.payinfo f.owner { pi with spaceUsed := pi.spaceUsed - footprint f } := by
      simp only [refund, hle, if_true, hpi, haddr]
      rw [if_neg (by unfold footprint at hge; omega)]; rfl
    refine ⟨by unfold SpaceInv; rw [e]; exact hi, fun a ha => ?_, fun hpos => by omega,
      fun _ => ⟨pi, hpi, hge, ?_, ?_⟩⟩
    · exact (congrArg (AMap.get · a) e).trans (AMap.get_set_ne ha)
    · exact (congrArg (AMap.get · f.owner) e).trans (AMap.get_set_self _ _ _)
    · exact (usedIn_erase hinv.wfF k f hg f.owner).trans (by rw [planFoot_plan hle, if_pos rfl]; rfl)
  · have e : refund s f = s.payinfo := if_neg hle
    exact ⟨by unfold SpaceInv; rw [e]; exact r1 (by omega), fun a _ => congrArg (AMap.get · a) e,
      fun _ => e, fun h => absurd h hle⟩

theorem removeFile_inv {s : State} (hinv : SpaceInv s) (k : FKey) : SpaceInv (removeFile s k) := by
  cases hg : AMap.get s.files k with
  | none => rw [removeFile_none hg]; exact hinv
  | some f => exact (removeFile_effect hinv hg).1

theorem SpaceInvFP.add_payonce {F P} (hinv : SpaceInvFP F P) {f : File}
    (hg : AMap.get F f.key = none) (h1 : 1 ≤ f.fileSize) (h2 : 1 ≤ f.maxProofs) (hpos : 0 < f.expires) :
    SpaceInvFP (AMap.set F f.key f) P := by
  refine ⟨AMap.wf_set _ _ hinv.wfF, hinv.wfP, AMap.forall_set hinv.fileOk ⟨rfl, h1, h2⟩, fun a pi hpi => ?_,
    AMap.forall_set hinv.hasPlan fun hle => absurd hle (Int.not_le.mpr hpos)⟩
  rw [usedIn_set_new hinv.wfF _ _ hg, planFoot_payonce hpos, Int.add_zero]
  exact hinv.planOk a pi hpi

theorem SpaceInvFP.add_plan {F P} (hinv : SpaceInvFP F P) {f : File} {pi : PayInfo}
    (hg : AMap.get F f.key = none) (h1 : 1 ≤ f.fileSize) (h2 : 1 ≤ f.maxProofs) (hle : f.expires ≤ 0)
    (hpi : AMap.get P f.owner = some pi) (hfit : pi.spaceUsed + footprint f ≤ pi.spaceAvailable) :
    SpaceInvFP (AMap.set F f.key f)
      (AMap.set P f.owner { pi with spaceUsed := pi.spaceUsed + footprint f }) := by
  have hfp := footprint_pos h1 h2
  have h0 := (hinv.planOk _ pi hpi).2.2.1
  refine ⟨AMap.wf_set _ _ hinv.wfF, AMap.wf_set _ _ hinv.wfP, AMap.forall_set hinv.fileOk ⟨rfl, h1, h2⟩,
    hinv.planOk_move hpi (fun a => ?_) (by omega) hfit,
    AMap.forall_set (fun k2 f2 h hle2 => AMap.get_set_isSome (hinv.hasPlan k2 f2 h hle2))
      fun _ => by rw [AMap.get_set_self]; rfl⟩
  rw [usedIn_set_new hinv.wfF _ _ hg, planFoot_plan hle]

/-- the attributes of a file the accounting depends on -/
def acct (f : File) : FKey × Int × Int × Int := (f.key, f.expires, f.fileSize, f.maxProofs)

theorem acct_eq {f g : File} (h : acct g = acct f) :
    g.key = f.key ∧ g.owner = f.owner ∧ g.expires = f.expires ∧ g.fileSize = f.fileSize ∧
      g.maxProofs = f.maxProofs := by
  simp only [acct, File.key, Prod.mk.injEq] at h
  simp only [File.key, Prod.mk.injEq]
  obtain ⟨⟨a, b, c⟩, d, e, g⟩ := h
  exact ⟨⟨a, b, c⟩, b, d, e, g⟩

theorem SpaceInvFP.rewrite {F P} (hinv : SpaceInvFP F P) {f f' : File}
    (hg : AMap.get F f.key = some f) (hk : f'.key = f.key) (ho : f'.owner = f.owner)
    (he : f'.expires = f.expires) (hs : f'.fileSize = f.fileSize) (hm : f'.maxProofs = f.maxProofs) :
    SpaceInvFP (AMap.set F f'.key f') P := by
  rw [hk]
  obtain ⟨_, h1, h2⟩ := hinv.fileOk _ f hg
  refine ⟨AMap.wf_set _ _ hinv.wfF, hinv.wfP, AMap.forall_set hinv.fileOk ⟨hk.symm, by omega, by omega⟩,
    fun a pi hpi => ?_, AMap.forall_set hinv.hasPlan fun hle => ?_⟩
  · rw [usedIn_set_same hinv.wfF _ f f' hg a (by simp only [planFoot, footprint, ho, he, hs, hm])]
    exact hinv.planOk a pi hpi
  · rw [ho]; exact hinv.hasPlan _ f hg (by omega)

theorem SpaceInvFP.rewrite_acct {F P} (hinv : SpaceInvFP F P) {k : FKey} {f f' : File}
    (hg : AMap.get F k = some f) (ha : acct f' = acct f) : SpaceInvFP (AMap.set F f'.key f') P := by
  obtain rfl : k = f.key := (hinv.fileOk k f hg).1
  obtain ⟨a1, a2, a3, a4, a5⟩ := acct_eq ha
  exact hinv.rewrite hg a1 a2 a3 a4 a5

theorem SpaceInvFP.usedIn_of_no_plan {F P} (hinv : SpaceInvFP F P) {a : String}
    (h : AMap.get P a = none) : usedIn F a = 0 := by
  refine AMap.sumBy_eq_zero _ fun ⟨k, f⟩ hp => if_neg fun hc => ?_
  have := hinv.hasPlan k f (AMap.get_of_mem_wf hinv.wfF hp) hc.2
  rw [hc.1, h] at this; cases this

theorem SpaceInvFP.buy {F P} (hinv : SpaceInvFP F P) (a : String) (spi : PayInfo)
    (haddr : spi.address = a)
    (hused : spi.spaceUsed = ((AMap.get P a).map (·.spaceUsed)).getD 0)
    (hfit : spi.spaceUsed ≤ spi.spaceAvailable) :
    SpaceInvFP F (AMap.set P a spi) := by
  refine ⟨hinv.wfF, AMap.wf_set _ _ hinv.wfP, hinv.fileOk, ?_,
    fun k f hg hle => AMap.get_set_isSome (hinv.hasPlan k f hg hle)⟩
  have hu : spi.spaceUsed = usedIn F a := by
    cases hold : AMap.get P a with
    | some old => rw [hold] at hused; exact hused.trans (hinv.planOk _ old hold).2.1
    | none => rw [hold] at hused; exact hused.trans (hinv.usedIn_of_no_plan hold).symm
  exact AMap.forall_set hinv.planOk
    ⟨haddr, hu, hu ▸ AMap.sumBy_nonneg _ (planFoot_nonneg_of hinv a), hfit⟩

/-- a purchase writes the buyer's plan record only (besides ledger and gauges), carrying the usage over -/
theorem buyStorage_shape {s s' : State} {now : Int} {c fa : String} {dd bytes : Int} {dn : String} {ref : Option String}
    {jp : Dec} {gid gacc : String}
    (hs : buyStorage s now c fa dd bytes dn ref jp gid gacc = some s') :
    ((AMap.get s.payinfo fa).map (·.spaceUsed)).getD 0 ≤ bytes ∧
    s'.params = s.params ∧ s'.files = s.files ∧
    s'.payinfo = AMap.set s.payinfo fa
      { startT := now, endT := now + I64.mul dd dayNs, spaceAvailable := bytes,
        spaceUsed := ((AMap.get s.payinfo fa).map (·.spaceUsed)).getD 0, address := fa } := by
  obtain ⟨tp0, su, hb, hp⟩ := buyStorage_spec hs
  obtain ⟨-, -, -, -, -, rfl, hle⟩ := buyBase_spec hb
  obtain ⟨b1, b2, b3, -, -, -, -, -, -, -, -, -, -, -, e⟩ := buyPay_spec hp
  rw [e]; exact ⟨hle, rfl, rfl, rfl⟩

def Op.writesSpace : Op → Bool
  | .postFile .. | .deleteFile .. | .buyStorage .. | .postProof .. | .report .. => true
  | _ => false

theorem step_frame_space {s s' : State} {h now : Int} {op : Op} (hstep : step s h now op = some s')
    (hop : op.writesSpace = false) :
    s'.files = s.files ∧ s'.payinfo = s.payinfo ∧ s'.params = s.params := by
  cases op with
  | postFile | deleteFile | buyStorage | postProof | report => cases hop
  | requestAttest | requestReport =>
    -- a request writes its own form store, if anything
    cases hstep
    split <;> exact ⟨rfl, rfl, rfl⟩
  | attest c p m o st =>
    cases hstep
    rcases attest_cases s h c p m o st with ⟨e, -⟩ | ⟨_, -, -, -, e⟩ | ⟨_, _, _, -, -, -, -, -, -, e⟩
    · rw [e]; exact ⟨rfl, rfl, rfl⟩
    · rw [e]; exact ⟨rfl, rfl, rfl⟩
    · rw [e]; exact ⟨rfl, rfl, rfl⟩
  | _ => rw [step_providerOp rfl hstep]; exact ⟨rfl, rfl, rfl⟩

theorem postFile_inv {s s' : State} {h now : Int} {c m : String} {fs mp ex pt : Int} {note : String}
    {nv : Bool} {jp : Dec} {gid gacc : String} (hinv : SpaceInv s)
    (hs : postFile s h now c m fs mp ex pt note nv jp gid gacc = some s') : SpaceInv s' := by
  have hr := removeFile_inv hinv (m, c, h)
  have hnone : AMap.get (removeFile s (m, c, h)).files (newFile s h c m fs mp ex pt note).key = none := by
    rw [removeFile_files_get]; exact if_pos rfl
  obtain ⟨-, h1, h2, -, ⟨hpos, _, _, -, -, -, -, -, -, -, -, e⟩ | ⟨hle, pi, hpi, -, hfit, e⟩⟩ := postFile_spec hs
  · rw [e]
    exact SpaceInvFP.add_payonce hr hnone h1 h2 hpos
  · rw [e]
    obtain ⟨_, _, _, _, a⟩ := pi
    obtain rfl : a = c := (hr.planOk c _ hpi).1
    exact SpaceInvFP.add_plan (f := newFile s h a m fs mp ex pt note) hr hnone h1 h2 hle hpi hfit

theorem SpaceInv.step {s s' : State} {h now : Int} {op : Op}
    (hinv : SpaceInv s) (hstep : step s h now op = some s') : SpaceInv s' := by
  cases op with
  | postFile c m fs mp ex pt note nv jp gid gacc => exact postFile_inv hinv hstep
  | deleteFile c m st =>
    cases hstep
    exact removeFile_inv hinv _
  | buyStorage c fa dd b dn ref jp gid gacc =>
    obtain ⟨hle, _, hF, hP⟩ := buyStorage_shape hstep
    unfold SpaceInv
    rw [hF, hP]
    exact SpaceInvFP.buy hinv fa _ rfl rfl hle
  | postProof c m o st tp v nc =>
    cases hstep
    rcases postProof_outcome s h c m o st tp v nc with e | ⟨f, p, -, -, -, -, -, e⟩ | ⟨f, hf, -, -, -, -, e⟩
    · rw [e]; exact hinv
    · rw [e]; exact hinv
    · rw [e]; exact hinv.rewrite_acct hf rfl
  | report c p m o st =>
    obtain ⟨form, -, -, ⟨-, rfl⟩ | ⟨-, f, hf, rfl⟩⟩ := report_cases hstep
    · exact hinv
    · exact removeProver_cases SpaceInv (hinv.rewrite_acct hf rfl) hinv
  | _ =>
    obtain ⟨hF, hP, -⟩ := step_frame_space hstep rfl
    unfold SpaceInv
    rw [hF, hP]; exact hinv

/-- `F'` is `F` with the entry of `file.key` rewritten any number of times by records that agree
with `file` on key, expiry and sizes -/
inductive Rewrites (file : File) : AMap FKey File → AMap FKey File → Prop
  | refl (F) : Rewrites file F F
  | step {F F'} (g : File) : Rewrites file F F' → acct g = acct file → Rewrites file F (AMap.set F' file.key g)

/-- `t'` is `t` after crediting provers `sz` bytes any number of times -/
inductive Credits (sz : Int) : Tracker → Tracker → Prop
  | refl (t) : Credits sz t t
  | step {t t'} (p : String) : Credits sz t t' → Credits sz t (credit t' p sz)

/-- one `manageProof`: the current file keeps its accounting attributes, plans are untouched, the
file store is unchanged or has the current file's entry rewritten, the tracker is unchanged or
one prover is credited the file's size -/
theorem manageProof_shape (s : State) (h : Int) (t : Tracker) (file : File) (pk : PKey) :
    let r := manageProof s h t file pk
    acct r.2.2 = acct file ∧ r.1.payinfo = s.payinfo ∧
    (r.1.files = s.files ∨ r.1.files = AMap.set s.files file.key r.2.2) ∧
    (r.2.1 = t ∨ ∃ p, r.2.1 = credit t p file.fileSize) := by
  dsimp only
  rw [manageProof_eq]
  split
  · exact ⟨rfl, rfl, Or.inl rfl, Or.inr ⟨_, rfl⟩⟩
  · rw [removeProver_eq]
    by_cases hm : pk ∈ file.proofs
    · -- the prover is listed: it is struck off and the file's entry rewritten; burning its contract,
      -- if it has one, writes neither files nor plans
      rw [if_pos hm]
      split
      · rw [burnContract_writes]; exact ⟨rfl, rfl, Or.inr rfl, Or.inl rfl⟩
      · exact ⟨rfl, rfl, Or.inr rfl, Or.inl rfl⟩
    · -- not listed: nothing but that contract changes
      rw [if_neg hm]
      split
      · rw [burnContract_writes]; exact ⟨rfl, rfl, Or.inl rfl, Or.inl rfl⟩
      · exact ⟨rfl, rfl, Or.inl rfl, Or.inl rfl⟩

theorem runProofs_shape (h : Int) (file : File) (pks : List PKey) (s : State) (t : Tracker) :
    (runProofs h pks s t file).1.payinfo = s.payinfo ∧
    Rewrites file s.files (runProofs h pks s t file).1.files ∧
    Credits file.fileSize t (runProofs h pks s t file).2.1 := by
  refine (foldl_inv (fun acc : State × Tracker × File => acct acc.2.2 = acct file ∧
      acc.1.payinfo = s.payinfo ∧ Rewrites file s.files acc.1.files ∧
      Credits file.fileSize t acc.2.1) _ ?_ pks (s, t, file) ⟨rfl, rfl, .refl _, .refl _⟩).2
  rintro ⟨s1, t1, f1⟩ pk ⟨hc, hp, hw, hcr⟩
  obtain ⟨a1, a2, a4, a5⟩ := manageProof_shape s1 h t1 f1 pk
  refine ⟨a1.trans hc, a2.trans hp, ?_, ?_⟩
  · rcases a4 with e | e
    · rw [e]; exact hw
    · rw [e, (acct_eq hc).1]; exact .step _ hw (a1.trans hc)
  · rcases a5 with e | ⟨p, e⟩
    · rw [e]; exact hcr
    · rw [e, (acct_eq hc).2.2.2.1]; exact .step p hcr

/-- one file of the reward block: either the file is dropped (the tracker is untouched), or only
its own entry is rewritten -/
theorem manageFile_shape (s : State) (h : Int) (t : Tracker) (file : File) :
    (file.proofs = [] ∧ isYoung h file.start file.proofInterval = false ∧
      manageFile s h t file = (removeFile s file.key, t)) ∨
    ((manageFile s h t file).1.payinfo = s.payinfo ∧
      Rewrites file s.files (manageFile s h t file).1.files ∧
      Credits file.fileSize t (manageFile s h t file).2 ∧
      (file.proofs = [] → (manageFile s h t file).2 = t)) := by
  rcases manageFile_cases s h t file with hdrop | ⟨-, e⟩
  · exact Or.inl hdrop
  · obtain ⟨b2, b4, b5⟩ := runProofs_shape h file file.proofs s t
    rw [e]
    exact Or.inr ⟨b2, b4, b5, fun he => by rw [he]; rfl⟩

theorem SpaceInvFP.rewrites {F F' : AMap FKey File} {P} {file g0 : File} (hinv : SpaceInvFP F P)
    (hg : AMap.get F file.key = some g0) (ha : acct g0 = acct file) (hr : Rewrites file F F') :
    SpaceInvFP F' P ∧ (∃ g, AMap.get F' file.key = some g ∧ acct g = acct file) ∧
      ∀ k, k ≠ file.key → AMap.get F' k = AMap.get F k := by
  induction hr with
  | refl => exact ⟨hinv, ⟨g0, hg, ha⟩, fun _ _ => rfl⟩
  | step g _ hga ih =>
    obtain ⟨i1, ⟨g1, hg1, ha1⟩, i3⟩ := ih
    have := i1.rewrite_acct hg1 (hga.trans ha1.symm)
    rw [(acct_eq hga).1] at this
    exact ⟨this, ⟨g, by simp, hga⟩,
      fun k hk => (AMap.get_set_ne hk).trans (i3 k hk)⟩

theorem manageFile_inv {s : State} (h : Int) (t : Tracker) {k : FKey} {file : File} (hinv : SpaceInv s)
    (hg : AMap.get s.files k = some file) : SpaceInv (manageFile s h t file).1 := by
  rcases manageFile_shape s h t file with ⟨_, _, e⟩ | ⟨e1, e3, _, _⟩
  · rw [e]; exact removeFile_inv hinv _
  · obtain rfl : k = file.key := (hinv.fileOk k file hg).1
    unfold SpaceInv; rw [e1]; exact (SpaceInvFP.rewrites hinv hg rfl e3).1

theorem SpaceInv.beginBlock {s s' : State} {h now : Int}
    (hinv : SpaceInv s) (hb : beginBlock s h now = .ok s') : SpaceInv s' := by
  rcases beginBlock_stores hb with rfl | ⟨b, gs, rfl⟩
  · exact hinv
  · exact filePass_stored_ind (fun a => SpaceInv a.1) h hinv.wfF
      (fun kv hkv => (hinv.fileOk _ _ (AMap.get_of_mem_wf hinv.wfF hkv)).1.symm)
      (fun a kv _ hg hi => manageFile_inv h a.2 hi hg) hinv

end Canine.Storage
