/-
The shape invariant of the x/notifications store, what a successful `create` checked and wrote,
and the induction principle of `blockAll`.
-/
import Canine.Notif.Model
namespace Canine.Notif

/-- Shape invariant of the shared store: every record sits under the key built from its own
fields (notifications under to/from/time, block entries under owner/address). -/
def KeyInv (s : State) : Prop :=
  ∀ k e, (k, e) ∈ s.store →
    (∃ n, e = .notif n ∧ k = notifKey n.to n.sender n.time) ∨ (∃ o b, e = .block o b ∧ k = blockKey o b)

def Inv (s : State) : Prop := AMap.WF s.store ∧ KeyInv s

theorem inv_set_notif (s : State) (hinv : Inv s) (n : Notif) :
    Inv { s with store := AMap.set s.store (notifKey n.to n.sender n.time) (.notif n) } := by
  refine ⟨AMap.wf_set _ _ hinv.1, fun k e hm => ?_⟩
  rcases AMap.mem_set hm with hm' | he
  · exact hinv.2 k e hm'
  · cases he; exact .inl ⟨n, rfl, rfl⟩

theorem inv_set_block (s : State) (hinv : Inv s) (o b : String) :
    Inv { s with store := AMap.set s.store (blockKey o b) (.block o b) } := by
  refine ⟨AMap.wf_set _ _ hinv.1, fun k e hm => ?_⟩
  rcases AMap.mem_set hm with hm' | he
  · exact hinv.2 k e hm'
  · cases he; exact .inr ⟨o, b, rfl, rfl⟩

theorem inv_erase (s : State) (hinv : Inv s) (k : Key) :
    Inv { s with store := AMap.erase s.store k } :=
  ⟨AMap.wf_erase _ hinv.1, fun k2 e hm => hinv.2 k2 e (AMap.mem_erase hm)⟩

theorem create_eq_some {s s' : State} {now : Int} {c : String} {r : Option String} {ct p : String} {j : Bool} :
    create s now c r ct p j = some s' ↔
      j = true ∧ ∃ to, r = some to ∧ isBlocked s to c = false ∧
        AMap.contains s.store (notifKey to c now) = false ∧
        { s with store := AMap.set s.store (notifKey to c now)
                            (.notif { to := to, sender := c, time := now, contents := ct, priv := p }) } = s' := by
  simp only [create, bind, Option.bind_eq_some_iff, req_eq_some, Option.some.injEq, exists_const]

/-- what holds before `blockAll` and survives the writing of one block entry of the signer holds after it -/
theorem blockAll_induction {P : State → Prop} (c : String)
    (hset : ∀ s a, P s → P { s with store := AMap.set s.store (blockKey c a) (.block c a) }) :
    ∀ (ts : List (String × Option String)) (s s' : State), blockAll s c ts = some s' → P s → P s'
  | [], _, _, h, hs => by cases h; exact hs
  | (_, none) :: _, _, _, h, _ => nomatch h
  | (_, some a) :: rest, s, s', h, hs => blockAll_induction c hset rest _ s' h (hset s a hs)

theorem step_preserves_inv (s s' : State) (now : Int) (op : Op) (hinv : Inv s)
    (hstep : step s now op = some s') : Inv s' := by
  cases op with
  | create c raw r ct p j =>
    obtain ⟨-, to, -, -, -, rfl⟩ := create_eq_some.mp hstep
    exact inv_set_notif s hinv { to := to, sender := c, time := now, contents := ct, priv := p }
  | delete c f t => cases hstep; exact inv_erase s hinv _
  | block c ts => exact blockAll_induction c (fun s a h => inv_set_block s h c a) ts s s' hstep hinv

end Canine.Notif
