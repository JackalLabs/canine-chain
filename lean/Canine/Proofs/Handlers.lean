/-
What each message handler of `Canine/Storage/Handlers.lean` does, stated once per handler: an
inversion of a successful call into its guards and the record update it returns (`…_spec`), or an
equation/case list for the handlers that cannot fail (`postProof_eq_spec`, `attest_cases`); which
stores a message writes (`…_writes`, `step_providerOp`, `step_indexOp`); every balance after sends of
single coins (`bal_pay_split`).  The frame and invariant lemmas of the property files are derived from these without unfolding a handler
again.  Core Lean only.
-/
import Canine.Storage.Model
import Canine.Proofs.Basic
import Canine.Proofs.Dec
import Canine.Proofs.Bank
namespace Canine.Storage
open Bank

theorem sendFromModule_spec {s : State} {src dst : String} {c : Coins} {b' : Bank}
    (h : sendFromModule s src dst c = some b') :
    s.blocked.contains dst = false ∧ Bank.send s.bank src dst c = some b' := by
  unfold sendFromModule at h
  split at h
  · simp at h
  · rename_i hb; exact ⟨by simpa using hb, h⟩

theorem sendFromModule_not_blocked {s : State} {src dst : String} {c : Coins} {b' : Bank}
    (h : sendFromModule s src dst c = some b') : dst ∉ s.blocked := by
  have := (sendFromModule_spec h).1
  simpa using this

theorem sendFromModule_bal {s : State} {src dst : String} {c : Coins} {b' : Bank}
    (h : sendFromModule s src dst c = some b') (a d : String) :
    bal b' a d = bal s.bank a d + (if dst = a then amt d c else 0) - (if src = a then amt d c else 0) :=
  bal_send (sendFromModule_spec h).2 a d

/-- the coin list `sdk.NewCoins` builds from a non-negative amount -/
def coinsOf (d : String) (x : Int) : Coins := if x = 0 then [] else [(d, x)]

/-- `sdk.NewCoins` of one coin: a negative amount panics -/
theorem newCoins_eq (d : String) (x : Int) : newCoins d x = if x < 0 then none else some (coinsOf d x) := by
  unfold newCoins coinsOf
  split
  · rfl
  · exact (apply_ite some _ _ _).symm

theorem newCoins_coinsOf {d : String} {x : Int} (hx : 0 ≤ x) : newCoins d x = some (coinsOf d x) := by
  rw [newCoins_eq, if_neg (Int.not_lt.mpr hx)]

theorem amt_coinsOf (d d' : String) (x : Int) : amt d' (coinsOf d x) = if d = d' then x else 0 := by
  unfold coinsOf
  split
  · simp [amt, *]
  · simp only [amt]; split <;> omega

theorem bal_send_coinsOf {src dst dn : String} {x : Int} {b b' : Bank}
    (h : send b src dst (coinsOf dn x) = some b') (a d : String) :
    bal b' a d = bal b a d + (if a = dst then (if d = dn then x else 0) else 0)
      - (if a = src then (if d = dn then x else 0) else 0) := by
  rw [bal_send h, amt_coinsOf]
  simp only [eq_comm (a := dst), eq_comm (a := src), eq_comm (a := dn)]

/-- Every balance after `payer` has paid `T` of `dn` into the account `m` and `m` has passed on `x`
to `g`, `y` to `p` and `z` to `r`; the five accounts may coincide. -/
theorem bal_pay_split {b b1 b2 b3 b4 : Bank} {payer m g p r dn : String} {T x y z : Int}
    (h1 : send b payer m (coinsOf dn T) = some b1) (h2 : send b1 m g (coinsOf dn x) = some b2)
    (h3 : send b2 m p (coinsOf dn y) = some b3) (h4 : send b3 m r (coinsOf dn z) = some b4) (a d : String) :
    bal b4 a d = bal b a d +
      (if d = dn then
        (if a = m then T - x - y - z else 0) - (if a = payer then T else 0)
        + (if a = g then x else 0) + (if a = p then y else 0) + (if a = r then z else 0)
       else 0) := by
  rw [bal_send_coinsOf h4, bal_send_coinsOf h3, bal_send_coinsOf h2, bal_send_coinsOf h1]
  -- `m` is the only account with several entries; the other terms agree on both sides
  by_cases e0 : d = dn
  · by_cases e1 : a = m <;> simp only [e0, e1, if_true, if_false] <;> omega
  · simp only [e0, if_false, ite_self]; omega

theorem newCoins_neg {d : String} {x : Int} (h : x < 0) : newCoins d x = none := by
  rw [newCoins_eq, if_pos h]

theorem newCoins_isSome {d : String} {x : Int} (h : 0 ≤ x) : ∃ cs, newCoins d x = some cs :=
  ⟨_, newCoins_coinsOf h⟩

theorem newCoins_some {d : String} {x : Int} {cs : Coins} (h : newCoins d x = some cs) :
    0 ≤ x ∧ cs = coinsOf d x := by
  rw [newCoins_eq] at h
  split at h
  · cases h
  · exact ⟨Int.not_lt.mp ‹_›, (Option.some.inj h).symm⟩

theorem send_coinsOf {b : Bank} {src dst d : String} {x : Int} (h0 : 0 ≤ x) (h1 : x ≤ bal b src d) :
    ∃ b', send b src dst (coinsOf d x) = some b' := by
  unfold coinsOf
  split
  · exact ⟨b, rfl⟩
  · exact send_single (by omega) h1

/-! ### `buyStorage` in two stages: the price, then the payments -/

/-- price part of `buyStorage`: (price before the referral discount, space already used) -/
def buyBase (s : State) (now : Int) (forAddress : String) (durationDays bytes : Int) (denom : String)
    (jklPrice : Dec) : Option (Int × Int) := do
  req (0 < durationDays)
  let durationNs := I64.mul durationDays dayNs
  req (durationNs ≥ timeMonthNs)
  let gbs := Int.tdiv bytes gb
  req (0 < gbs)
  req (denom = "ujkl")
  let durMs := Int.tdiv durationNs 1000000
  let hours := Dec.trunc ((Dec.quo? (Dec.ofInt durMs) (Dec.ofInt hourMs)).getD Dec.zero)
  let storageCostNew ← storageCost s.params.pricePerTbPerMonth gbs hours jklPrice
  req (0 ≤ storageCostNew)
  match AMap.get s.payinfo forAddress with
    | some pi =>
      if pi.spaceUsed > bytes then none
      else if pi.endT > now then
        (upgradeCost s now bytes durationNs storageCostNew pi jklPrice).map (fun p => (p, pi.spaceUsed))
      else some (storageCostNew, pi.spaceUsed)
    | none => some (storageCostNew, 0)

/- `buyReferred` … `buySpr`: the `let`s of `buyStorage` after the price (`referred`, `long`, `toPay`,
`discount`, `pol`, `refDec`, `spr`), as functions; `buyPay` below uses them and `buyStorage_eq` ties it
back to the handler.  The constants are those of `msg_server_buy_storage.go`: a referred purchase
pays 0.90 of the price and `pol` loses 0.1; 0.95 and 0.05 when it is longer than 365 days. -/
def buyReferred (creator : String) (referral : Option String) : Bool :=
  match referral with
  | some r => decide (r ≠ creator)
  | none => false

def buyLong (durationDays : Int) : Bool :=
  decide (Int.tdiv (I64.mul durationDays dayNs) 1000000 > 365 * 24 * hourMs)

def buyToPay (toPay0 : Int) (referred long : Bool) : Int :=
  if referred then Dec.trunc (Dec.mul (Dec.ofInt toPay0) (if long then dec0_95 else dec0_90)) else toPay0

def buyDiscount (referred long : Bool) : Dec :=
  if referred then (if long then Dec.quoInt (Dec.ofInt 5) 100 else Dec.quoInt (Dec.ofInt 10) 100) else Dec.zero

def buyPol (p : Params) (referred long : Bool) : Dec :=
  if referred then Dec.sub (Dec.quoInt (Dec.ofInt p.polRatio) 100) (if long then dec0_05 else dec0_1)
  else Dec.quoInt (Dec.ofInt p.polRatio) 100

def refDecOf (p : Params) : Dec := Dec.quoInt (Dec.ofInt p.referralCommission) 100

def buySpr (p : Params) (referred long : Bool) : Dec :=
  Dec.sub (Dec.sub (Dec.sub Dec.one (refDecOf p)) (buyPol p referred long)) (buyDiscount referred long)

/-- the gauge store after `newGauge'` -/
def gaugesAfter (gs : AMap String Gauge) (now : Int) (id acc : String) (coins : Coins) (endT : Int) :
    AMap String Gauge :=
  AMap.set gs id
    { id := id, startT := now, endT := endT,
      coins := (match AMap.get gs id with
                | some g => addCoins g.coins coins
                | none => coins),
      account := acc }

theorem newGauge'_eq (s : State) (now : Int) (id acc : String) (coins : Coins) (endT : Int) :
    newGauge' s now id acc coins endT = { s with gauges := gaugesAfter s.gauges now id acc coins endT } := rfl

/-- who receives the referral share: a distinct named referrer, otherwise the stakers' fee pool -/
def refTarget (s : State) (creator : String) (referral : Option String) : String :=
  match referral with
  | some r => if r ≠ creator then r else s.feeAcc
  | none => s.feeAcc

/-- the referral-share transfer of `buyStorage` -/
def payReferral (s : State) (creator : String) (referral : Option String) (refTokens : Coins) : Option Bank :=
  match referral with
  | some r => if buyReferred creator referral then sendFromModule s s.moduleAcc r refTokens
              else Bank.send s.bank s.moduleAcc s.feeAcc refTokens
  | none => Bank.send s.bank s.moduleAcc s.feeAcc refTokens

def buyPay (s : State) (now : Int) (creator forAddress : String) (durationDays bytes : Int)
    (denom : String) (referral : Option String) (gaugeId gaugeAcc : String) (toPay0 spaceUsed : Int) : Option State := do
  let referred := buyReferred creator referral
  let long := buyLong durationDays
  let toPay := buyToPay toPay0 referred long
  let pol := buyPol s.params referred long
  req (0 ≤ toPay)
  let payCoins ← Bank.newCoins denom toPay
  let b1 ← Bank.send s.bank creator s.moduleAcc payCoins
  let spi : PayInfo := { startT := now, endT := now + I64.mul durationDays dayNs, spaceAvailable := bytes, spaceUsed := spaceUsed, address := forAddress }
  let s1 := { s with bank := b1, payinfo := AMap.set s.payinfo forAddress spi }
  let spcTokens ← Bank.newCoins denom (Dec.trunc (Dec.mul (Dec.ofInt toPay) (buySpr s.params referred long)))
  let s2 := newGauge' s1 now gaugeId gaugeAcc spcTokens spi.endT
  let b2 ← sendFromModule s2 s2.moduleAcc gaugeAcc spcTokens
  let polTokens ← Bank.newCoins denom (Dec.trunc (Dec.mul (Dec.ofInt toPay) pol))
  let b3 ← sendFromModule { s2 with bank := b2 } s2.moduleAcc s2.polAcc polTokens
  let refTokens ← Bank.newCoins denom (Dec.trunc (Dec.mul (Dec.ofInt toPay) (refDecOf s.params)))
  let b4 ←
    match referral with
    | some r => if referred then sendFromModule { s2 with bank := b3 } s2.moduleAcc r refTokens
                else Bank.send b3 s2.moduleAcc s2.feeAcc refTokens
    | none => Bank.send b3 s2.moduleAcc s2.feeAcc refTokens
  some { s2 with bank := b4 }

theorem bind_ite_ite {α β : Type} (c1 c2 : Prop) [Decidable c1] [Decidable c2] (a b d : Option α)
    (k : α → Option β) :
    (if c1 then a else if c2 then b else d).bind k = if c1 then a.bind k else if c2 then b.bind k else d.bind k :=
  (apply_ite (Option.bind · k) c1 a _).trans (congrArg (ite c1 (a.bind k)) (apply_ite (Option.bind · k) c2 b d))

theorem buyStorage_eq (s : State) (now : Int) (creator fa : String) (days bytes : Int) (denom : String)
    (referral : Option String) (jp : Dec) (gid gacc : String) :
    buyStorage s now creator fa days bytes denom referral jp gid gacc =
      (buyBase s now fa days bytes denom jp).bind
        (fun p => buyPay s now creator fa days bytes denom referral gid gacc p.1 p.2) := by
  conv => rhs; unfold buyBase; simp only [bind, Option.bind_assoc]
  unfold buyStorage
  refine Option.bind_congr fun _ _ => ?_
  refine Option.bind_congr fun _ _ => ?_
  refine Option.bind_congr fun _ _ => ?_
  refine Option.bind_congr fun _ _ => ?_
  refine Option.bind_congr fun _ _ => ?_
  refine Option.bind_congr fun _ _ => ?_
  -- the source has the payment part once, after the lookup of the buyer's plan; the elaborated `do`
  -- block carries it into every branch of that `match`
  cases AMap.get s.payinfo fa with
  | none => rfl
  | some pi => exact (bind_ite_ite _ _ _ _ _ _).symm

/-- the last step of `buyPay`, where the rest of the handler stands inside the branches -/
theorem payReferral_bind {β : Type} (s : State) (creator : String) (referral : Option String) (rt : Coins)
    (k : Bank → Option β) :
    (match referral with
      | some r => if buyReferred creator referral then (sendFromModule s s.moduleAcc r rt).bind k
                  else (Bank.send s.bank s.moduleAcc s.feeAcc rt).bind k
      | none => (Bank.send s.bank s.moduleAcc s.feeAcc rt).bind k) = (payReferral s creator referral rt).bind k := by
  cases referral with
  | none => rfl
  | some r => exact (apply_ite (Option.bind · k) _ _ _).symm

theorem payReferral_spec {s : State} {creator : String} {referral : Option String} {rt : Coins} {b' : Bank}
    (h : payReferral s creator referral rt = some b') :
    Bank.send s.bank s.moduleAcc (refTarget s creator referral) rt = some b' ∧
    (buyReferred creator referral = true → refTarget s creator referral ∉ s.blocked) := by
  unfold payReferral at h
  cases referral with
  | none => simp only at h; exact ⟨by simpa [refTarget] using h, by simp [buyReferred]⟩
  | some r =>
    simp only at h
    by_cases hr : r ≠ creator
    · have hb : buyReferred creator (some r) = true := by simp [buyReferred, hr]
      simp only [hb, if_true] at h
      have := sendFromModule_spec h
      simp only [refTarget, hr, if_true, ne_eq, not_false_eq_true]
      exact ⟨this.2, fun _ => sendFromModule_not_blocked h⟩
    · have hb : ¬ buyReferred creator (some r) = true := by simp [buyReferred] at hr ⊢; exact hr
      simp only [hb] at h
      simp only [refTarget, hr, if_false]
      exact ⟨h, fun e => absurd e hb⟩

/-- the amounts of a purchase: price charged, provider (gauge) share, liquidity share, referral share -/
def chargedOf (creator : String) (referral : Option String) (days tp0 : Int) : Int :=
  buyToPay tp0 (buyReferred creator referral) (buyLong days)

def spcOf (p : Params) (creator : String) (referral : Option String) (days toPay : Int) : Int :=
  Dec.trunc (Dec.mul (Dec.ofInt toPay) (buySpr p (buyReferred creator referral) (buyLong days)))

def polCutOf (p : Params) (creator : String) (referral : Option String) (days toPay : Int) : Int :=
  Dec.trunc (Dec.mul (Dec.ofInt toPay) (buyPol p (buyReferred creator referral) (buyLong days)))

def refCutOf (p : Params) (toPay : Int) : Int :=
  Dec.trunc (Dec.mul (Dec.ofInt toPay) (refDecOf p))

theorem buyPay_spec {s s' : State} {now : Int} {creator fa : String} {days bytes : Int} {denom : String}
    {referral : Option String} {gid gacc : String} {tp0 su : Int}
    (h : buyPay s now creator fa days bytes denom referral gid gacc tp0 su = some s') :
    ∃ b1 b2 b3 : Bank,
      let T := chargedOf creator referral days tp0
      let spc := spcOf s.params creator referral days T
      let polCut := polCutOf s.params creator referral days T
      let refCut := refCutOf s.params T
      0 ≤ T ∧ 0 ≤ spc ∧ 0 ≤ polCut ∧ 0 ≤ refCut ∧
      Bank.send s.bank creator s.moduleAcc (coinsOf denom T) = some b1 ∧
      Bank.send b1 s.moduleAcc gacc (coinsOf denom spc) = some b2 ∧ gacc ∉ s.blocked ∧
      Bank.send b2 s.moduleAcc s.polAcc (coinsOf denom polCut) = some b3 ∧ s.polAcc ∉ s.blocked ∧
      Bank.send b3 s.moduleAcc (refTarget s creator referral) (coinsOf denom refCut) = some s'.bank ∧
      (buyReferred creator referral = true → refTarget s creator referral ∉ s.blocked) ∧
      s' = { s with
        bank := s'.bank,
        payinfo := AMap.set s.payinfo fa
          { startT := now, endT := now + I64.mul days dayNs, spaceAvailable := bytes, spaceUsed := su, address := fa },
        gauges := gaugesAfter s.gauges now gid gacc (coinsOf denom spc) (now + I64.mul days dayNs) } := by
  simp only [buyPay, bind, Option.bind_eq_some_iff, req_eq_some] at h
  obtain ⟨_, hT, payCoins, hpay, b1, hb1, spcTokens, hspc, b2, hb2, polTokens, hpol, b3, hb3,
    refTokens, href, h⟩ := h
  obtain ⟨b4, hb4, hs⟩ := Option.bind_eq_some_iff.mp ((payReferral_bind _ _ _ _ _).symm.trans h)
  simp only [Option.some.injEq] at hs
  obtain ⟨-, rfl⟩ := newCoins_some hpay
  obtain ⟨hspc0, rfl⟩ := newCoins_some hspc
  obtain ⟨hpol0, rfl⟩ := newCoins_some hpol
  obtain ⟨href0, rfl⟩ := newCoins_some href
  have h2 := sendFromModule_spec hb2
  have h3 := sendFromModule_spec hb3
  have h4 := payReferral_spec hb4
  have n2 := sendFromModule_not_blocked hb2
  have n3 := sendFromModule_not_blocked hb3
  refine ⟨b1, b2, b3, hT, hspc0, hpol0, href0, hb1,
    h2.2, n2, h3.2, n3, ?_, ?_, ?_⟩
  · subst hs; exact h4.1
  · exact h4.2
  · subst hs; rfl

theorem buyStorage_spec {s s' : State} {now : Int} {creator fa : String} {days bytes : Int} {denom : String}
    {referral : Option String} {jp : Dec} {gid gacc : String}
    (h : buyStorage s now creator fa days bytes denom referral jp gid gacc = some s') :
    ∃ tp0 su, buyBase s now fa days bytes denom jp = some (tp0, su) ∧
      buyPay s now creator fa days bytes denom referral gid gacc tp0 su = some s' := by
  rw [buyStorage_eq, Option.bind_eq_some_iff] at h
  obtain ⟨⟨tp0, su⟩, hb, hp⟩ := h
  exact ⟨tp0, su, hb, hp⟩

theorem buyStorage_writes {s s' : State} {now : Int} {c fa : String} {dd b : Int} {dn : String}
    {ref : Option String} {jp : Dec} {gid gacc : String}
    (hs : buyStorage s now c fa dd b dn ref jp gid gacc = some s') :
    ∃ bk pi g, s' = { s with bank := bk, payinfo := pi, gauges := g } := by
  obtain ⟨_, _, -, hp⟩ := buyStorage_spec hs
  obtain ⟨_, _, _, -, -, -, -, -, -, -, -, -, -, -, e⟩ := buyPay_spec hp
  exact ⟨_, _, _, e⟩

/-- What a successful price stage checked and returned: the guards, the cost of the space bought (the price
itself when the buyer has no plan yet), and the usage carried over from the plan, which fits the new size. -/
theorem buyBase_spec {s : State} {now : Int} {fa : String} {days bytes : Int} {denom : String} {jp : Dec}
    {tp0 su : Int} (h : buyBase s now fa days bytes denom jp = some (tp0, su)) :
    denom = "ujkl" ∧ 0 < days ∧ I64.mul days dayNs ≥ timeMonthNs ∧ 0 < Int.tdiv bytes gb ∧
    (∃ cost, storageCost s.params.pricePerTbPerMonth (Int.tdiv bytes gb)
        (Dec.trunc ((Dec.quo? (Dec.ofInt (Int.tdiv (I64.mul days dayNs) 1000000)) (Dec.ofInt hourMs)).getD Dec.zero))
        jp = some cost ∧ 0 ≤ cost ∧ (AMap.get s.payinfo fa = none → tp0 = cost)) ∧
    su = ((AMap.get s.payinfo fa).map (·.spaceUsed)).getD 0 ∧ su ≤ bytes := by
  simp only [buyBase, bind, Option.bind_eq_some_iff, req_eq_some] at h
  obtain ⟨_, h1, _, h2, _, h3, _, h4, cost, hc, _, hc0, h⟩ := h
  have hb : 1 * gb ≤ bytes := mul_le_of_le_tdiv (by decide) (by decide) h3
  refine ⟨h4, h1, h2, h3, ⟨cost, hc, hc0, fun hnone => ?_⟩, ?_⟩
  · rw [hnone] at h; cases h; rfl
  cases hpi : AMap.get s.payinfo fa with
  | none => rw [hpi] at h; cases h; exact ⟨rfl, by unfold gb at hb; omega⟩
  | some pi =>
    rw [hpi] at h
    dsimp only at h
    split at h
    · cases h
    · have e : su = pi.spaceUsed := by
        split at h
        · obtain ⟨_, _, e⟩ := Option.map_eq_some_iff.mp h; cases e; rfl
        · cases h; rfl
      exact ⟨e, by omega⟩

theorem initProvider_spec {s s' : State} {c ip kb : String} {ts : Int} {iv : Bool}
    (h : initProvider s c ip kb ts iv = some s') :
    AMap.get s.providers c = none ∧ 0 ≤ s.params.collateralPrice ∧
    Bank.send s.bank (acctOf s c) s.collateralAcc (coinsOf "ujkl" s.params.collateralPrice) = some s'.bank ∧
    s' = { s with
      bank := s'.bank,
      collateral := AMap.set s.collateral c s.params.collateralPrice,
      providers := AMap.set s.providers c
        { address := c, ip := ip, totalspace := toString ts, burned := some 0,
          creator := c, keybase := kb, claimers := [] } } := by
  simp only [initProvider, bind, Option.bind_eq_some_iff, req_eq_some] at h
  obtain ⟨_, _, _, hno, _, hp, coins, hcoins, b1, hb1, hs⟩ := h
  simp only [Option.some.injEq] at hs
  obtain ⟨-, rfl⟩ := newCoins_some hcoins
  exact ⟨AMap.contains_eq_false.mp hno, hp, by subst hs; exact hb1, by subst hs; rfl⟩

theorem shutdownProvider_spec {s s' : State} {c : String} (h : shutdownProvider s c = some s') :
    (AMap.get s.providers c).isSome ∧
    ((∃ amt, AMap.get s.collateral c = some amt ∧ 0 ≤ amt ∧ acctOf s c ∉ s.blocked ∧
        Bank.send s.bank s.collateralAcc (acctOf s c) (coinsOf "ujkl" amt) = some s'.bank ∧
        s' = { s with bank := s'.bank, collateral := AMap.erase s.collateral c,
                      providers := AMap.erase s.providers c }) ∨
     (AMap.get s.collateral c = none ∧ s' = { s with providers := AMap.erase s.providers c })) := by
  simp only [shutdownProvider, bind, Option.bind_eq_some_iff, req_eq_some] at h
  obtain ⟨_, hpr, h⟩ := h
  refine ⟨AMap.contains_iff.mp hpr, ?_⟩
  cases hg : AMap.get s.collateral c with
  | none =>
    simp only [hg, Option.some.injEq] at h
    exact Or.inr ⟨rfl, h.symm⟩
  | some amt =>
    simp only [hg, Option.bind_eq_some_iff, req_eq_some] at h
    obtain ⟨_, h0, coins, hcoins, b1, hb1, hs⟩ := h
    simp only [Option.some.injEq] at hs
    obtain ⟨-, rfl⟩ := newCoins_some hcoins
    refine Or.inl ⟨amt, rfl, h0, sendFromModule_not_blocked hb1, ?_, ?_⟩
    · subst hs; exact (sendFromModule_spec hb1).2
    · subst hs; rfl

theorem updProvider_spec {s s' : State} {c : String} {f : Provider → Option Provider}
    (h : updProvider s c f = some s') :
    ∃ p p', AMap.get s.providers c = some p ∧ f p = some p' ∧
      s' = { s with providers := AMap.set s.providers c p' } := by
  simp only [updProvider, bind, Option.bind_eq_some_iff, Option.some.injEq] at h
  obtain ⟨p, hp, p', hp', hs⟩ := h
  exact ⟨p, p', hp, hp', hs.symm⟩

/-! ### `postProof` as a decision tree -/

/-- the record written by an accepted proof of a listed prover -/
def renewed (s : State) (h nc : Int) (f : File) (p : Proof) : Proof :=
  { p with lastProven := h, chunkToProve := nextChunk f.fileSize s.params.chunkSize nc }

/-- the record written by the accepted first proof of a new prover -/
def freshProof (s : State) (h nc : Int) (c : String) (f : File) : Proof :=
  { prover := c, merkle := f.merkle, owner := f.owner, start := f.start, lastProven := h,
    chunkToProve := nextChunk f.fileSize s.params.chunkSize nc }

def postProofSpec (s : State) (h : Int) (c m o : String) (st tp : Int) (v : Bool) (nc : Int) : Reported :=
  match AMap.get s.files (m, o, st) with
  | none => ⟨s, false⟩
  | some f =>
    let pk : PKey := (c, f.key)
    if pk ∈ f.proofs then
      match AMap.get s.proofs pk with
      | none => ⟨s, false⟩
      | some p =>
        if tp = p.chunkToProve ∧ v = true then
          ⟨{ s with proofs := AMap.set s.proofs pk (renewed s h nc f p) }, true⟩
        else ⟨s, false⟩
    else
      if (f.proofs.length : Int) < f.maxProofs ∧ tp = 0 ∧ v = true then
        ⟨{ setFile s { f with proofs := f.proofs ++ [pk] } with
            proofs := AMap.set s.proofs pk (freshProof s h nc c f) }, true⟩
      else ⟨s, false⟩

theorem postProof_eq_spec (s : State) (h : Int) (c m o : String) (st tp : Int) (v : Bool) (nc : Int) :
    postProof s h c m o st tp v nc = postProofSpec s h c m o st tp v nc := by
  unfold postProof postProofSpec
  cases AMap.get s.files (m, o, st) with
  | none => rfl
  | some f =>
    dsimp only
    by_cases hl : (c, f.key) ∈ f.proofs
    · rw [if_pos hl, List.contains_iff_mem.mpr hl]
      cases AMap.get s.proofs (c, f.key) with
      | none => simp
      | some p =>
        by_cases ht : tp = p.chunkToProve
        · cases v <;> simp [ht, renewed]
        · simp [ht]
    · rw [if_neg hl, Bool.eq_false_iff.mpr (mt List.contains_iff_mem.mp hl)]
      by_cases hlt : (f.proofs.length : Int) < f.maxProofs
      · have he : ¬ (f.proofs.length : Int) = f.maxProofs := by omega
        by_cases ht : tp = 0
        · cases v <;> simp [ht, hlt, he, freshProof]
        · simp [ht, he]
      · by_cases he : (f.proofs.length : Int) = f.maxProofs
        · simp [he]
        · have : f.maxProofs ≤ (f.proofs.length : Int) := by omega
          simp [hlt, he, this]

/-- the three outcomes of `postProof`: rejected (nothing written), a listed prover's record renewed,
a newcomer appended to the file's list with a fresh record -/
theorem postProof_outcome (s : State) (h : Int) (c m o : String) (st tp : Int) (v : Bool) (nc : Int) :
    postProof s h c m o st tp v nc = ⟨s, false⟩ ∨
    (∃ f p, AMap.get s.files (m, o, st) = some f ∧ (c, f.key) ∈ f.proofs ∧
      AMap.get s.proofs (c, f.key) = some p ∧ tp = p.chunkToProve ∧ v = true ∧
      postProof s h c m o st tp v nc =
        ⟨{ s with proofs := AMap.set s.proofs (c, f.key) (renewed s h nc f p) }, true⟩) ∨
    (∃ f, AMap.get s.files (m, o, st) = some f ∧ (c, f.key) ∉ f.proofs ∧
      (f.proofs.length : Int) < f.maxProofs ∧ tp = 0 ∧ v = true ∧
      postProof s h c m o st tp v nc =
        ⟨{ setFile s { f with proofs := f.proofs ++ [(c, f.key)] } with
            proofs := AMap.set s.proofs (c, f.key) (freshProof s h nc c f) }, true⟩) := by
  rw [postProof_eq_spec]
  generalize hr : postProofSpec s h c m o st tp v nc = r
  unfold postProofSpec at hr
  cases hf : AMap.get s.files (m, o, st) with
  | none => rw [hf] at hr; exact .inl hr.symm
  | some f =>
    rw [hf] at hr
    dsimp only at hr
    by_cases hl : (c, f.key) ∈ f.proofs
    · rw [if_pos hl] at hr
      cases hp : AMap.get s.proofs (c, f.key) with
      | none => rw [hp] at hr; exact .inl hr.symm
      | some p =>
        rw [hp] at hr
        dsimp only at hr
        by_cases hg : tp = p.chunkToProve ∧ v = true
        · rw [if_pos hg] at hr; exact .inr (.inl ⟨f, p, rfl, hl, hp, hg.1, hg.2, hr.symm⟩)
        · rw [if_neg hg] at hr; exact .inl hr.symm
    · rw [if_neg hl] at hr
      by_cases hg : (f.proofs.length : Int) < f.maxProofs ∧ tp = 0 ∧ v = true
      · rw [if_pos hg] at hr; exact .inr (.inr ⟨f, rfl, hl, hg.1, hg.2.1, hg.2.2, hr.symm⟩)
      · rw [if_neg hg] at hr; exact .inl hr.symm

theorem requestForm_spec {forms forms' : AMap PKey Form} {s : State} {p m o : String} {st ec : Int}
    {ch : List String} (hs : requestForm forms s p m o st ec ch = some forms') :
    ∃ f, AMap.get s.files (m, o, st) = some f ∧ (p, f.key) ∈ f.proofs ∧
      (AMap.get s.proofs (p, f.key)).isSome = true ∧ AMap.get forms (p, f.key) = none ∧
      (AMap.get s.providers p).isSome = true ∧ s.params.attestFormSize ≤ ec ∧
      forms' = AMap.set forms (p, f.key)
        { prover := p, merkle := m, owner := o, start := st,
          attestations := ch.map (fun a => (a, false)) } := by
  simp only [requestForm, bind, Option.bind_eq_some_iff, req_eq_some] at hs
  obtain ⟨f, hf, _, ⟨hl, hp⟩, _, hnone, _, hprov, _, hec, _, -, hs⟩ := hs
  simp only [Option.some.injEq] at hs
  exact ⟨f, hf, by simpa using hl, hp, AMap.contains_eq_false.mp hnone, hprov, hec, hs.symm⟩

def signed (atts : List (String × Bool)) (signer : String) : List (String × Bool) :=
  atts.map (fun p => if p.1 = signer then (p.1, true) else p)

def completeCount (atts : List (String × Bool)) : Int := ((atts.filter (·.2)).length : Int)

theorem signForm_eq (atts : List (String × Bool)) (signer : String) :
    signForm atts signer = (signed atts signer, atts.any (fun p => p.1 = signer), completeCount (signed atts signer)) := rfl

/-- `attest`, written without `signForm` -/
theorem attest_eq (s : State) (h : Int) (c pr m o : String) (st : Int) :
    attest s h c pr m o st =
      match AMap.get s.attests (pr, (m, o, st)) with
      | none => s
      | some form =>
        if form.attestations.any (fun p => p.1 = c) = true then
          if completeCount (signed form.attestations c) < s.params.attestMinToPass then
            { s with attests := AMap.set s.attests (pr, (m, o, st)) { form with attestations := signed form.attestations c } }
          else
            match AMap.get s.files (form.merkle, form.owner, form.start) with
            | none => s
            | some f =>
              if (form.prover, f.key) ∈ f.proofs then
                match AMap.get s.proofs (form.prover, f.key) with
                | none => s
                | some p =>
                  { s with proofs := AMap.set s.proofs (form.prover, f.key) { p with lastProven := h },
                           attests := AMap.erase s.attests (pr, (m, o, st)) }
              else s
        else s := by
  unfold attest
  dsimp only
  cases AMap.get s.attests (pr, (m, o, st)) with
  | none => rfl
  | some form =>
    show (if (!form.attestations.any (fun p => p.1 = c)) = true then s
      else if completeCount (signed form.attestations c) < s.params.attestMinToPass then _ else _) =
      if form.attestations.any (fun p => p.1 = c) = true then _ else s
    by_cases hl : form.attestations.any (fun p => p.1 = c) = true
    · rw [if_pos hl, if_neg (by rw [hl]; decide)]
      by_cases hq : completeCount (signed form.attestations c) < s.params.attestMinToPass
      · rw [if_pos hq, if_pos hq]; rfl
      · rw [if_neg hq, if_neg hq]
        cases AMap.get s.files (form.merkle, form.owner, form.start) with
        | none => rfl
        | some f =>
          dsimp only
          by_cases hm : (form.prover, f.key) ∈ f.proofs
          · rw [if_pos hm, List.contains_iff_mem.mpr hm]; rfl
          · rw [if_neg hm, Bool.eq_false_iff.mpr (mt List.contains_iff_mem.mp hm)]; rfl
    · rw [if_neg hl, if_pos (by rw [Bool.eq_false_iff.mpr hl]; rfl)]

/-- three outcomes of `attest`: unchanged (with the reason), signed below quorum, quorum reached -/
theorem attest_cases (s : State) (h : Int) (c pr m o : String) (st : Int) :
    (attest s h c pr m o st = s ∧
      (AMap.get s.attests (pr, (m, o, st)) = none ∨
       ∃ form, AMap.get s.attests (pr, (m, o, st)) = some form ∧
        (form.attestations.any (fun p => p.1 = c) = false ∨
         (¬ completeCount (signed form.attestations c) < s.params.attestMinToPass ∧
           (AMap.get s.files (form.merkle, form.owner, form.start) = none ∨
            ∃ f, AMap.get s.files (form.merkle, form.owner, form.start) = some f ∧
              ((form.prover, f.key) ∉ f.proofs ∨ AMap.get s.proofs (form.prover, f.key) = none)))))) ∨
    (∃ form, AMap.get s.attests (pr, (m, o, st)) = some form ∧
        form.attestations.any (fun p => p.1 = c) = true ∧
        completeCount (signed form.attestations c) < s.params.attestMinToPass ∧
        attest s h c pr m o st =
          { s with attests := AMap.set s.attests (pr, (m, o, st)) { form with attestations := signed form.attestations c } }) ∨
    (∃ form f p, AMap.get s.attests (pr, (m, o, st)) = some form ∧
        form.attestations.any (fun p => p.1 = c) = true ∧
        ¬ completeCount (signed form.attestations c) < s.params.attestMinToPass ∧
        AMap.get s.files (form.merkle, form.owner, form.start) = some f ∧
        (form.prover, f.key) ∈ f.proofs ∧ AMap.get s.proofs (form.prover, f.key) = some p ∧
        attest s h c pr m o st =
          { s with proofs := AMap.set s.proofs (form.prover, f.key) { p with lastProven := h },
                   attests := AMap.erase s.attests (pr, (m, o, st)) }) := by
  have e := attest_eq s h c pr m o st
  generalize attest s h c pr m o st = r at e ⊢
  cases hform : AMap.get s.attests (pr, (m, o, st)) with
  | none => rw [hform] at e; exact .inl ⟨e, .inl rfl⟩
  | some form =>
    rw [hform] at e
    dsimp only at e
    by_cases hl : form.attestations.any (fun p => p.1 = c) = true
    · rw [if_pos hl] at e
      by_cases hq : completeCount (signed form.attestations c) < s.params.attestMinToPass
      · rw [if_pos hq] at e; exact .inr (.inl ⟨form, rfl, hl, hq, e⟩)
      · rw [if_neg hq] at e
        cases hf : AMap.get s.files (form.merkle, form.owner, form.start) with
        | none => rw [hf] at e; exact .inl ⟨e, .inr ⟨form, rfl, .inr ⟨hq, .inl hf⟩⟩⟩
        | some f =>
          rw [hf] at e
          dsimp only at e
          by_cases hm : (form.prover, f.key) ∈ f.proofs
          · rw [if_pos hm] at e
            cases hp : AMap.get s.proofs (form.prover, f.key) with
            | none => rw [hp] at e; exact .inl ⟨e, .inr ⟨form, rfl, .inr ⟨hq, .inr ⟨f, hf, .inr hp⟩⟩⟩⟩
            | some p => rw [hp] at e; exact .inr (.inr ⟨form, f, p, rfl, hl, hq, hf, hm, hp, e⟩)
          · rw [if_neg hm] at e
            exact .inl ⟨e, .inr ⟨form, rfl, .inr ⟨hq, .inr ⟨f, hf, .inl hm⟩⟩⟩⟩
    · rw [if_neg hl] at e
      exact .inl ⟨e, .inr ⟨form, rfl, .inl (Bool.eq_false_iff.mpr hl)⟩⟩

/-- `report`, written without the monad -/
theorem report_eq (s : State) (c pr m o : String) (st : Int) :
    report s c pr m o st =
      match AMap.get s.reports (pr, (m, o, st)) with
      | none => none
      | some form =>
        if form.attestations.any (fun p => p.1 = c) = true then
          if completeCount (signed form.attestations c) < s.params.attestMinToPass then
            some { s with reports := AMap.set s.reports (pr, (m, o, st)) { form with attestations := signed form.attestations c } }
          else
            match AMap.get s.files (m, o, st) with
            | none => none
            | some f => some (removeProver { s with reports := AMap.erase s.reports (pr, (m, o, st)) } f (pr, f.key)).1
        else none := by
  unfold report
  dsimp only
  cases AMap.get s.reports (pr, (m, o, st)) with
  | none => rfl
  | some form =>
    show (req (form.attestations.any (fun p => p.1 = c) = true)).bind _ =
      if form.attestations.any (fun p => p.1 = c) = true then _ else _
    unfold req
    by_cases hl : form.attestations.any (fun p => p.1 = c) = true
    · rw [if_pos hl, if_pos hl]
      show (if completeCount (signed form.attestations c) < s.params.attestMinToPass then _ else _) = _
      by_cases hq : completeCount (signed form.attestations c) < s.params.attestMinToPass
      · rw [if_pos hq, if_pos hq]; rfl
      · rw [if_neg hq, if_neg hq]
        cases AMap.get s.files (m, o, st) <;> rfl
    · rw [if_neg hl, if_neg hl]; rfl

theorem report_cases {s s' : State} {c pr m o : String} {st : Int}
    (h : report s c pr m o st = some s') :
    ∃ form, AMap.get s.reports (pr, (m, o, st)) = some form ∧
      form.attestations.any (fun p => p.1 = c) = true ∧
      ((completeCount (signed form.attestations c) < s.params.attestMinToPass ∧
          s' = { s with reports := AMap.set s.reports (pr, (m, o, st)) { form with attestations := signed form.attestations c } }) ∨
       (¬ completeCount (signed form.attestations c) < s.params.attestMinToPass ∧
          ∃ f, AMap.get s.files (m, o, st) = some f ∧
            s' = (removeProver { s with reports := AMap.erase s.reports (pr, (m, o, st)) } f (pr, f.key)).1)) := by
  rw [report_eq] at h
  cases hg : AMap.get s.reports (pr, (m, o, st)) with
  | none => rw [hg] at h; cases h
  | some form =>
    rw [hg] at h
    dsimp only at h
    by_cases hl : form.attestations.any (fun p => p.1 = c) = true
    · rw [if_pos hl] at h
      refine ⟨form, rfl, hl, ?_⟩
      by_cases hq : completeCount (signed form.attestations c) < s.params.attestMinToPass
      · rw [if_pos hq] at h; exact .inl ⟨hq, (Option.some.inj h).symm⟩
      · rw [if_neg hq] at h
        cases hf : AMap.get s.files (m, o, st) with
        | none => rw [hf] at h; cases h
        | some f => rw [hf] at h; exact .inr ⟨hq, f, rfl, (Option.some.inj h).symm⟩
    · rw [if_neg hl] at h; cases h

/-- `attest` writes only the proof records and the attestation forms -/
theorem attest_frame (s : State) (h : Int) (c p m o : String) (st : Int) :
    (attest s h c p m o st).files = s.files ∧ (attest s h c p m o st).files2 = s.files2 ∧
    (attest s h c p m o st).reports = s.reports ∧ (attest s h c p m o st).providers = s.providers ∧
    (((attest s h c p m o st).proofs = s.proofs ∧
        ((attest s h c p m o st).attests = s.attests ∨
          ∃ form atts, AMap.get s.attests (p, (m, o, st)) = some form ∧
            (attest s h c p m o st).attests =
              AMap.set s.attests (p, (m, o, st)) { form with attestations := atts })) ∨
     (∃ form f p0, AMap.get s.attests (p, (m, o, st)) = some form ∧
        AMap.get s.files (form.merkle, form.owner, form.start) = some f ∧
        (form.prover, f.key) ∈ f.proofs ∧ AMap.get s.proofs (form.prover, f.key) = some p0 ∧
        (attest s h c p m o st).proofs =
          AMap.set s.proofs (form.prover, f.key) { p0 with lastProven := h } ∧
        (attest s h c p m o st).attests = AMap.erase s.attests (p, (m, o, st)))) := by
  rcases attest_cases s h c p m o st with
    ⟨e, -⟩ | ⟨form, hg, -, -, e⟩ | ⟨form, f, p0, hg, -, -, hf, hm, hp, e⟩
  · rw [e]; exact ⟨rfl, rfl, rfl, rfl, Or.inl ⟨rfl, Or.inl rfl⟩⟩
  · rw [e]; exact ⟨rfl, rfl, rfl, rfl, Or.inl ⟨rfl, Or.inr ⟨form, _, hg, rfl⟩⟩⟩
  · rw [e]; exact ⟨rfl, rfl, rfl, rfl, Or.inr ⟨form, f, p0, hg, hf, hm, hp, rfl, rfl⟩⟩

/-- a successful `report` either only signs the form or removes the reported prover -/
theorem report_frame {s s' : State} {c p m o : String} {st : Int}
    (hs : report s c p m o st = some s') :
    (s'.files = s.files ∧ s'.files2 = s.files2 ∧ s'.proofs = s.proofs ∧ s'.attests = s.attests) ∨
    (∃ f, AMap.get s.files (m, o, st) = some f ∧
      s' = (removeProver { s with reports := AMap.erase s.reports (p, (m, o, st)) } f (p, f.key)).1) := by
  obtain ⟨form, -, -, ⟨-, e⟩ | ⟨-, f, hf, e⟩⟩ := report_cases hs
  · subst e; exact Or.inl ⟨rfl, rfl, rfl, rfl⟩
  · exact Or.inr ⟨f, hf, e⟩

theorem removeFile_writes (s : State) (k : FKey) :
    removeFile s k = { s with proofs := (removeFile s k).proofs, payinfo := (removeFile s k).payinfo,
                              files := (removeFile s k).files, files2 := (removeFile s k).files2 } := by
  unfold removeFile; split <;> rfl

theorem removeFile_params (s : State) (k : FKey) : (removeFile s k).params = s.params := by
  rw [removeFile_writes]

theorem removeFile_providers (s : State) (k : FKey) : (removeFile s k).providers = s.providers := by
  rw [removeFile_writes]

/-- provider share of a one-time file payment -/
def postSpr (p : Params) : Dec :=
  Dec.sub (Dec.sub Dec.one (Dec.quoInt (Dec.ofInt p.referralCommission) 100)) (Dec.quoInt (Dec.ofInt p.polRatio) 100)

/- `postKbs`, `postHours`, `postDays`: the `let`s `kbs`, `hours`, `days` of the one-time-payment branch
of `postFile`, as functions, so that `postFile_spec` can name them.  From `msg_server_post_file.go`:
size in units of 1000 bytes with a minimum of 1024; `expires - h` blocks at 6 seconds each, divided
down to hours and days with truncation. -/
def postKbs (fileSize maxProofs : Int) : Int :=
  if Int.tdiv (fileSize * maxProofs) 1000 < 1024 then 1024 else Int.tdiv (fileSize * maxProofs) 1000

def postHours (h expires : Int) : Int := Int.tdiv (Int.tdiv (I64.mul (expires - h) 6) 60) 60

def postDays (h expires : Int) : Int := Int.tdiv (postHours h expires) 24

/-- the file `postFile` stores -/
def newFile (s : State) (h : Int) (c m : String) (fs mp ex pt : Int) (note : String) : File :=
  { merkle := m, owner := c, start := h, expires := ex, fileSize := fs,
    proofInterval := s.params.proofWindow, proofType := pt, proofs := [], maxProofs := mp, note := note }

/-- A successful `postFile`: the validated sizes, the file stored in place of any file under the
same key, and either the one-time payment (price charged to the creator, provider share escrowed in
a gauge that ends after the paid days) or the footprint booked on the creator's plan. -/
theorem postFile_spec {s s' : State} {h now : Int} {c m : String} {fs mp ex pt : Int} {note : String}
    {nv : Bool} {jp : Dec} {gid gacc : String}
    (hs : postFile s h now c m fs mp ex pt note nv jp gid gacc = some s') :
    nv = true ∧ 1 ≤ fs ∧ 1 ≤ mp ∧ fs ≤ Int.tdiv I64.maxV mp ∧
    ((0 < ex ∧ ∃ (cost : Int) (b1 : Bank),
        0 < postDays h ex ∧ now + postDays h ex * dayNs < protoMaxNs ∧
        storageCostKbs s.params.pricePerTbPerMonth (postKbs fs mp) (postHours h ex) jp = some cost ∧
        0 ≤ cost ∧ 0 ≤ Dec.trunc (Dec.mul (Dec.ofInt cost) (postSpr s.params)) ∧
        Bank.send s.bank c s.moduleAcc (coinsOf "ujkl" cost) = some b1 ∧
        Bank.send b1 s.moduleAcc gacc
          (coinsOf "ujkl" (Dec.trunc (Dec.mul (Dec.ofInt cost) (postSpr s.params)))) = some s'.bank ∧
        gacc ∉ s.blocked ∧
        s' = { setFile (removeFile s (m, c, h)) (newFile s h c m fs mp ex pt note) with
          bank := s'.bank,
          gauges := gaugesAfter s.gauges now gid gacc
            (coinsOf "ujkl" (Dec.trunc (Dec.mul (Dec.ofInt cost) (postSpr s.params))))
            (now + postDays h ex * dayNs) }) ∨
     (ex ≤ 0 ∧ ∃ pi, AMap.get (removeFile s (m, c, h)).payinfo c = some pi ∧ pi.endT ≥ now ∧
        pi.spaceUsed + fs * mp ≤ pi.spaceAvailable ∧
        s' = { setFile (removeFile s (m, c, h)) (newFile s h c m fs mp ex pt note) with
          payinfo := AMap.set (removeFile s (m, c, h)).payinfo pi.address
            { pi with spaceUsed := pi.spaceUsed + fs * mp } })) := by
  simp only [postFile, bind, Option.bind_eq_some_iff, req_eq_some] at hs
  obtain ⟨_, hnv, _, ⟨h1, h2, h3⟩, hs⟩ := hs
  refine ⟨hnv, h1, h2, h3, ?_⟩
  split at hs
  · rename_i hex
    simp only [Option.bind_eq_some_iff, req_eq_some] at hs
    obtain ⟨_, hd, cost, hcost, _, hc0, spcT, hspc, payC, hpay, b1, hb1, b2, hb2, hs⟩ := hs
    simp only [Option.some.injEq] at hs
    obtain ⟨hspc0, rfl⟩ := newCoins_some hspc
    obtain ⟨-, rfl⟩ := newCoins_some hpay
    subst hs
    rw [removeFile_writes] at hb1 hb2
    have s2 := (sendFromModule_spec hb2).2
    have n2 := sendFromModule_not_blocked hb2
    exact Or.inl ⟨hex, cost, b1, hd.1, hd.2, hcost, hc0, hspc0, hb1, s2, n2,
      by rw [removeFile_writes]; rfl⟩
  · rename_i hex
    simp only [Option.bind_eq_some_iff, req_eq_some] at hs
    obtain ⟨pi, hpi, _, hend, _, hfit, hs⟩ := hs
    simp only [Option.some.injEq] at hs
    exact Or.inr ⟨by omega, pi, hpi, hend, hfit, hs.symm⟩

/-- `postFile` stores the new file in place of any file under the same key; beyond that it writes
only the ledger, the gauges and the plan records -/
theorem postFile_writes {s s' : State} {h now : Int} {c m : String} {fs mp ex pt : Int} {note : String}
    {nv : Bool} {jp : Dec} {gid gacc : String}
    (hs : postFile s h now c m fs mp ex pt note nv jp gid gacc = some s') :
    ∃ b g pi, s' = { setFile (removeFile s (m, c, h)) (newFile s h c m fs mp ex pt note) with
      bank := b, gauges := g, payinfo := pi } := by
  obtain ⟨-, -, -, -, ⟨-, _, _, -, -, -, -, -, -, -, -, e⟩ | ⟨-, _, -, -, -, e⟩⟩ := postFile_spec hs
  · exact ⟨_, _, _, e⟩
  · exact ⟨_, _, _, e⟩

theorem removeFile_none {s : State} {k : FKey} (hg : AMap.get s.files k = none) : removeFile s k = s := by
  unfold removeFile; simp only [hg]

/-- what `RemoveFile` leaves of the plan records: a plan-paid file's footprint goes back to its owner -/
def refund (s : State) (f : File) : AMap String PayInfo :=
  if f.expires ≤ 0 then
    match AMap.get s.payinfo f.owner with
    | some pi =>
      let u := pi.spaceUsed - f.fileSize * f.maxProofs
      AMap.set s.payinfo pi.address { pi with spaceUsed := if u < 0 then 0 else u }
    | none => s.payinfo
  else s.payinfo

theorem removeFile_some {s : State} {k : FKey} {f : File} (hg : AMap.get s.files k = some f) :
    removeFile s k =
      { s with proofs := f.proofs.foldl (fun m pk => AMap.erase m pk) s.proofs, payinfo := refund s f,
               files := AMap.erase s.files k, files2 := AMap.erase s.files2 k } := by
  unfold removeFile refund; simp only [hg]; rfl

theorem removeFile_files_get (s : State) (k k' : FKey) :
    AMap.get (removeFile s k).files k' = if k = k' then none else AMap.get s.files k' := by
  cases hg : AMap.get s.files k with
  | none =>
    rw [removeFile_none hg]
    split
    · rename_i e; exact e ▸ hg
    · rfl
  | some f => rw [removeFile_some hg]; exact AMap.get_erase _ _ _

theorem removeFile_files_other (s : State) (k0 k : FKey) (hne : k ≠ k0) :
    AMap.get (removeFile s k0).files k = AMap.get s.files k := by
  rw [removeFile_files_get, if_neg (fun e => hne e.symm)]

theorem removeFile_wf (s : State) (k : FKey) (h : AMap.WF s.files) : AMap.WF (removeFile s k).files := by
  cases hg : AMap.get s.files k with
  | none => rw [removeFile_none hg]; exact h
  | some f => rw [removeFile_some hg]; exact AMap.wf_erase _ h

theorem proofs_get_of_removeFile (s : State) (k : FKey) (pk : PKey) (p : Proof)
    (h : AMap.get (removeFile s k).proofs pk = some p) : AMap.get s.proofs pk = some p := by
  cases hg : AMap.get s.files k with
  | none => rwa [removeFile_none hg] at h
  | some f =>
    rw [removeFile_some hg] at h
    have h' := (AMap.get_foldl_erase f.proofs s.proofs pk).symm.trans h
    split at h'
    · cases h'
    · exact h'

/-- the state after `RemoveProverWithKey` + `Save` for a listed key -/
def dropProver (s : State) (f : File) (pk : PKey) : State × File :=
  let f' := { f with proofs := f.proofs.filter (· ≠ pk) }
  ({ setFile s f' with proofs := AMap.erase s.proofs pk }, f')

theorem removeProver_eq (s : State) (f : File) (pk : PKey) :
    removeProver s f pk = if pk ∈ f.proofs then dropProver s f pk else (s, f) := by
  unfold removeProver dropProver
  by_cases hm : pk ∈ f.proofs <;> simp [hm]

theorem removeProver_of_mem (s : State) (f : File) (pk : PKey) (hm : pk ∈ f.proofs) :
    removeProver s f pk = dropProver s f pk := by
  rw [removeProver_eq, if_pos hm]

theorem removeProver_cases (P : State → Prop) {s : State} {f : File} {pk : PKey}
    (hd : P (dropProver s f pk).1) (hs : P s) : P (removeProver s f pk).1 := by
  rw [removeProver_eq]; split
  · exact hd
  · exact hs

/-- the seven provider-management messages -/
def Op.isProviderOp : Op → Bool
  | .initProvider .. | .shutdownProvider .. | .setProviderIP .. | .setProviderKeybase ..
  | .setProviderTotalSpace .. | .addClaimer .. | .removeClaimer .. => true
  | _ => false

/-- the five provider-management messages that rewrite the signer's provider record -/
def Op.isSetter : Op → Bool
  | .setProviderIP .. | .setProviderKeybase .. | .setProviderTotalSpace .. | .addClaimer ..
  | .removeClaimer .. => true
  | _ => false

/-- a setter rewrites the signer's record, which exists, and keeps its address and burn counter -/
theorem step_setter {s s' : State} {h now : Int} {op : Op} (hop : op.isSetter = true)
    (hstep : step s h now op = some s') :
    ∃ p p', AMap.get s.providers op.creator = some p ∧ p'.address = p.address ∧ p'.burned = p.burned ∧
      s' = { s with providers := AMap.set s.providers op.creator p' } := by
  have upd : ∀ {c : String} {f : Provider → Option Provider}, updProvider s c f = some s' →
      (∀ p p', f p = some p' → p'.address = p.address ∧ p'.burned = p.burned) →
      ∃ p p', AMap.get s.providers c = some p ∧ p'.address = p.address ∧ p'.burned = p.burned ∧
        s' = { s with providers := AMap.set s.providers c p' } := fun hu hf => by
    obtain ⟨p, p', hp, hp', e⟩ := updProvider_spec hu
    exact ⟨p, p', hp, (hf p p' hp').1, (hf p p' hp').2, e⟩
  cases op <;> cases hop
  case setProviderIP c ip iv =>
    cases iv
    · cases hstep
    · exact upd hstep fun _ _ e => by cases e; exact ⟨rfl, rfl⟩
  case setProviderKeybase | setProviderTotalSpace => exact upd hstep fun _ _ e => by cases e; exact ⟨rfl, rfl⟩
  case addClaimer | removeClaimer => exact upd hstep fun _ _ e => by split at e <;> cases e; exact ⟨rfl, rfl⟩

/-- a provider-management message writes only the provider records and, for a registration or a
shutdown, the collateral records and the ledger -/
theorem step_providerOp {s s' : State} {h now : Int} {op : Op} (hop : op.isProviderOp = true)
    (hstep : step s h now op = some s') :
    s' = { s with bank := s'.bank, collateral := s'.collateral, providers := s'.providers } := by
  cases hs : op.isSetter
  · cases op with
    | initProvider =>
      obtain ⟨-, -, -, e⟩ := initProvider_spec hstep
      rw [e]
    | shutdownProvider =>
      obtain ⟨-, ⟨_, -, -, -, -, e⟩ | ⟨-, e⟩⟩ := shutdownProvider_spec hstep <;> rw [e]
    | _ => cases hop <;> cases hs
  · obtain ⟨_, _, -, -, -, e⟩ := step_setter hs hstep
    rw [e]

/-- the messages that write a file index, a proof record or a form; the others are about plans and
providers -/
def Op.isStoreOp : Op → Bool
  | .postFile .. | .deleteFile .. | .postProof .. | .requestAttest .. | .attest ..
  | .requestReport .. | .report .. => true
  | _ => false

/-- a message outside `isStoreOp` writes the ledger, the plan records, the gauges, the collateral
records and the provider records only -/
theorem step_otherOp {s s' : State} {h now : Int} {op : Op} (hop : op.isStoreOp = false)
    (hstep : step s h now op = some s') :
    s' = { s with bank := s'.bank, payinfo := s'.payinfo, gauges := s'.gauges, collateral := s'.collateral,
                  providers := s'.providers } := by
  cases op with
  | buyStorage =>
    obtain ⟨_, _, _, rfl⟩ := buyStorage_writes hstep
    rfl
  | postFile | deleteFile | postProof | requestAttest | attest | requestReport | report => cases hop
  | _ => rw [step_providerOp rfl hstep]

/-- the messages that move coins or write collateral records -/
def Op.movesMoney : Op → Bool
  | .postFile .. | .buyStorage .. | .initProvider .. | .shutdownProvider .. => true
  | _ => false

/-- a message that moves no money and is not about providers writes the file indexes, the proof and
plan records and the forms only -/
theorem step_indexOp {s s' : State} {h now : Int} {op : Op} (hm : op.movesMoney = false)
    (hp : op.isProviderOp = false) (hstep : step s h now op = some s') :
    s' = { s with files := s'.files, files2 := s'.files2, proofs := s'.proofs, payinfo := s'.payinfo,
                  attests := s'.attests, reports := s'.reports } := by
  have hrp : ∀ (t : State) (f : File) (pk : PKey), (removeProver t f pk).1 =
      { t with files := (removeProver t f pk).1.files, files2 := (removeProver t f pk).1.files2,
               proofs := (removeProver t f pk).1.proofs } := fun t f pk => by
    rw [removeProver_eq]; split <;> rfl
  cases op with
  | postFile | buyStorage | initProvider | shutdownProvider => cases hm
  | setProviderIP | setProviderKeybase | setProviderTotalSpace | addClaimer | removeClaimer => cases hp
  | deleteFile c m st =>
    cases hstep
    rw [show deleteFile s c m st = removeFile s (m, c, st) from rfl, removeFile_writes]
  | postProof c m o st tp v nc =>
    cases hstep
    rcases postProof_outcome s h c m o st tp v nc with e | ⟨_, _, -, -, -, -, -, e⟩ | ⟨_, -, -, -, -, -, e⟩ <;>
      rw [e] <;> rfl
  | attest c p m o st =>
    cases hstep
    rcases attest_cases s h c p m o st with ⟨e, -⟩ | ⟨_, -, -, -, e⟩ | ⟨_, _, _, -, -, -, -, -, -, e⟩ <;>
      rw [e] <;> rfl
  | report c p m o st =>
    obtain ⟨_, -, -, ⟨-, rfl⟩ | ⟨-, f, -, rfl⟩⟩ := report_cases hstep
    · rfl
    · rw [hrp]
  | requestAttest | requestReport => cases hstep; split <;> rfl

end Canine.Storage
