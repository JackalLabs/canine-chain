/-
The collateral escrow holds exactly the sum of the collateral records (`CollInv`).  A step that
writes no record is described by a frame (`CollFrame`: records, configuration and escrow balances
stay, no gauge account becomes the escrow account); every message except registration and shutdown
and the reward block are such steps, and those two change record and escrow balance by one amount.
-/
import Canine.Proofs.Payments
namespace Canine.Storage
open Bank

/-- The collateral escrow is fully backed.  Besides the balance equation the invariant carries the
configuration facts it rests on: the escrow account is a blocked recipient
(`app.ModuleAccountAddrs()`, handed to the bank keeper as blocked addresses in app.go), it is
neither the storage module account nor the fee pool, no gauge pays out of it, only registered
providers have a collateral record, and the records are non-negative.  Collateral is always ujkl
(`sdk.NewInt64Coin("ujkl", params.CollateralPrice)`, msg_server_init_provider.go). -/
structure CollInv (s : State) : Prop where
  wf : AMap.WF s.collateral
  escBlocked : s.collateralAcc ∈ s.blocked
  modNe : s.moduleAcc ≠ s.collateralAcc
  feeNe : s.feeAcc ≠ s.collateralAcc
  gaugeNe : ∀ kv ∈ s.gauges, kv.2.account ≠ s.collateralAcc
  provided : ∀ a v, AMap.get s.collateral a = some v → (AMap.get s.providers a).isSome
  nonneg : ∀ a v, AMap.get s.collateral a = some v → 0 ≤ v
  backed : bal s.bank s.collateralAcc "ujkl" = AMap.sumBy id s.collateral

/-- what a step that is neither a registration nor a shutdown does, as far as the escrow is
concerned: records, configuration and escrow balance (every denomination) stay, providers are not
removed, and gauge accounts stay away from the escrow account -/
structure CollFrame (s s' : State) : Prop where
  cfg : SameCfg s s'
  esc : ∀ d, bal s'.bank s.collateralAcc d = bal s.bank s.collateralAcc d
  gaugeNe : (∀ kv ∈ s.gauges, kv.2.account ≠ s.collateralAcc) →
    ∀ kv ∈ s'.gauges, kv.2.account ≠ s.collateralAcc

theorem CollFrame.refl (s : State) : CollFrame s s := ⟨SameCfg.refl s, fun _ => rfl, fun h => h⟩

theorem CollFrame.trans {s s1 s2 : State} (h1 : CollFrame s s1) (h2 : CollFrame s1 s2) : CollFrame s s2 := by
  refine ⟨h1.cfg.trans h2.cfg, fun d => ?_, fun hg => ?_⟩
  · have := h2.esc d; rw [h1.cfg.cacc] at this; rw [this, h1.esc d]
  · have := h2.gaugeNe; rw [h1.cfg.cacc] at this; exact this (h1.gaugeNe hg)

theorem SameMoney.frame {s s' : State} (h : SameMoney s s') : CollFrame s s' :=
  ⟨h.cfg, fun d => by rw [h.bank], fun hg => by rw [h.gauges]; exact hg⟩

theorem CollFrame.of_writes (s : State) {files files2 : AMap FKey File} {proofs : AMap PKey Proof}
    {payinfo : AMap String PayInfo} {attests reports : AMap PKey Form} {b : Bank} {gs : AMap String Gauge}
    (hb : ∀ d, bal b s.collateralAcc d = bal s.bank s.collateralAcc d)
    (hg : (∀ kv ∈ s.gauges, kv.2.account ≠ s.collateralAcc) → ∀ kv ∈ gs, kv.2.account ≠ s.collateralAcc) :
    CollFrame s { s with files := files, files2 := files2, proofs := proofs, payinfo := payinfo,
                         attests := attests, reports := reports, bank := b, gauges := gs } :=
  ⟨⟨rfl, rfl, rfl, rfl, rfl, rfl, rfl, fun _ h => h⟩, hb, hg⟩

/-- transfers the escrow account neither pays nor receives, while gauges are at most deleted -/
theorem CollFrame.of_sent {s : State} {P Q : String → Prop} {b : Bank} {gs : AMap String Gauge}
    (hb : Sent P Q s.bank b) (hP : ¬ P s.collateralAcc) (hQ : ¬ Q s.collateralAcc)
    (hgs : ∀ kv ∈ gs, kv ∈ s.gauges) : CollFrame s { s with bank := b, gauges := gs } :=
  .of_writes s (hb.bal_eq hP hQ) fun hg kv hkv => hg kv (hgs kv hkv)

theorem CollInv.frame {s s' : State} (hinv : CollInv s) (hf : CollFrame s s') : CollInv s' := by
  obtain ⟨c, e, g⟩ := hf
  refine ⟨by rw [c.coll]; exact hinv.wf, by rw [c.cacc, c.blk]; exact hinv.escBlocked,
    by rw [c.macc, c.cacc]; exact hinv.modNe, by rw [c.facc, c.cacc]; exact hinv.feeNe,
    by rw [c.cacc]; exact g hinv.gaugeNe, ?_, by rw [c.coll]; exact hinv.nonneg,
    by rw [c.cacc, c.coll, e]; exact hinv.backed⟩
  intro a v hv
  rw [c.coll] at hv
  exact c.prov a (hinv.provided a v hv)

theorem gaugesAfter_ok {gs : AMap String Gauge} {now : Int} {id acc : String} {coins : Coins} {endT : Int}
    {x : String} (hacc : acc ≠ x) (hg : ∀ kv ∈ gs, kv.2.account ≠ x) :
    ∀ kv ∈ gaugesAfter gs now id acc coins endT, kv.2.account ≠ x := by
  intro kv hkv
  rcases AMap.mem_set hkv with h | h
  · exact hg kv h
  · rw [h]; exact hacc

theorem ne_of_not_blocked {s : State} {a : String} (hb : s.collateralAcc ∈ s.blocked) (ha : a ∉ s.blocked) :
    a ≠ s.collateralAcc := (ne_of_mem_of_not_mem hb ha).symm

theorem buyStorage_frame {s s' : State} {now : Int} {creator fa : String} {days bytes : Int} {denom : String}
    {referral : Option String} {jp : Dec} {gid gacc : String}
    (hinv : CollInv s) (hc : creator ≠ s.collateralAcc)
    (h : buyStorage s now creator fa days bytes denom referral jp gid gacc = some s') : CollFrame s s' := by
  obtain ⟨tp0, su, -, hp⟩ := buyStorage_spec h
  obtain ⟨b1, b2, b3, -, -, -, -, h1, h2, n2, h3, n3, h4, n4, hs⟩ := buyPay_spec hp
  have hm := hinv.modNe
  have g2 := ne_of_not_blocked hinv.escBlocked n2
  have g3 := ne_of_not_blocked hinv.escBlocked n3
  have g4 : refTarget s creator referral ≠ s.collateralAcc := by
    rcases referral_cases s creator referral with ⟨r, -, -, hr, -⟩ | ⟨-, -, ht⟩
    · exact ne_of_not_blocked hinv.escBlocked (n4 hr)
    · rw [ht]; exact hinv.feeNe
  rw [hs]
  exact .of_writes s
    (fun d => by
      rw [bal_send_other h4 hm g4, bal_send_other h3 hm g3, bal_send_other h2 hm g2, bal_send_other h1 hc hm])
    (gaugesAfter_ok g2)

theorem postFile_frame {s s' : State} {h now : Int} {creator merkle : String} {fs mp ex pt : Int}
    {note : String} {nv : Bool} {jp : Dec} {gid gacc : String}
    (hinv : CollInv s) (hc : creator ≠ s.collateralAcc)
    (hs : postFile s h now creator merkle fs mp ex pt note nv jp gid gacc = some s') : CollFrame s s' := by
  obtain ⟨-, -, -, -, ⟨hex, cost, b1, -, -, -, -, -, h1, h2, n2, e⟩ | ⟨hex, -⟩⟩ := postFile_spec hs
  · have hm := hinv.modNe
    have g2 := ne_of_not_blocked hinv.escBlocked n2
    rw [e, removeFile_writes]
    exact .of_writes s (fun d => by rw [bal_send_other h2 hm g2, bal_send_other h1 hc hm]) (gaugesAfter_ok g2)
  · exact (postFile_plan_sameMoney hs (by omega)).frame

theorem sameMoney_setter {s s' : State} {h now : Int} {op : Op} (hop : op.isSetter = true)
    (hstep : step s h now op = some s') : SameMoney s s' := by
  obtain ⟨p, p', -, -, -, rfl⟩ := step_setter hop hstep
  exact .of_stores s fun a h => AMap.get_set_isSome h

theorem step_sameMoney {s s' : State} {h now : Int} {op : Op} (hop : op.movesMoney = false)
    (hstep : step s h now op = some s') : SameMoney s s' := by
  cases op with
  | postFile | buyStorage | initProvider | shutdownProvider => cases hop
  | setProviderIP | setProviderKeybase | setProviderTotalSpace | addClaimer | removeClaimer =>
    exact sameMoney_setter rfl hstep
  | deleteFile | postProof | requestAttest | attest | requestReport | report =>
    rw [step_indexOp rfl rfl hstep]; exact .of_stores s fun _ h => h

/-- `hc` is on `acctOf s c`, the account that pays, not on the signer string `c` that keys the record;
the frames above need only the raw string, which is what their handlers send from -/
theorem collInv_initProvider {s s' : State} {c ip kb : String} {ts : Int} {iv : Bool}
    (hinv : CollInv s) (hc : acctOf s c ≠ s.collateralAcc)
    (h : initProvider s c ip kb ts iv = some s') : CollInv s' := by
  obtain ⟨hnone, hp, hsend, hs⟩ := initProvider_spec h
  have hb := bal_send_coinsOf hsend s.collateralAcc "ujkl"
  simp only [if_true, Ne.symm hc, if_false] at hb
  -- an unregistered address has no record, so the sum of the records grows by exactly the price
  have hcn : AMap.get s.collateral c = none := by
    cases hg : AMap.get s.collateral c with
    | none => rfl
    | some v => have := hinv.provided c v hg; rw [hnone] at this; cases this
  rw [hs]
  exact ⟨AMap.wf_set _ _ hinv.wf, hinv.escBlocked, hinv.modNe, hinv.feeNe, hinv.gaugeNe,
    AMap.forall_set (fun a v hv => AMap.get_set_isSome (hinv.provided a v hv))
      (by rw [AMap.get_set_self]; rfl),
    AMap.forall_set hinv.nonneg hp,
    by simp only; rw [AMap.sumBy_set _ _ _ hinv.wf, hcn, hb, hinv.backed]; simp⟩

theorem collInv_shutdownProvider {s s' : State} {c : String}
    (hinv : CollInv s) (hc : acctOf s c ≠ s.collateralAcc)
    (h : shutdownProvider s c = some s') : CollInv s' := by
  -- the providers other than `c` that have a record are still there
  have hprov : ∀ a v, a ≠ c → AMap.get s.collateral a = some v →
      (AMap.get (AMap.erase s.providers c) a).isSome := fun a v hne hv => by
    rw [AMap.get_erase_ne hne]; exact hinv.provided a v hv
  obtain ⟨-, ⟨amt, hrec, -, -, hsend, hs⟩ | ⟨hrec, hs⟩⟩ := shutdownProvider_spec h
  · have hb := bal_send_coinsOf hsend s.collateralAcc "ujkl"
    simp only [if_true, Ne.symm hc, if_false] at hb
    rw [hs]
    exact ⟨AMap.wf_erase _ hinv.wf, hinv.escBlocked, hinv.modNe, hinv.feeNe, hinv.gaugeNe,
      AMap.forall_erase_of_ne hprov, AMap.forall_erase hinv.nonneg c,
      by simp only; rw [AMap.sumBy_erase _ _ hinv.wf, hrec, hb, hinv.backed]; simp⟩
  · rw [hs]
    exact ⟨hinv.wf, hinv.escBlocked, hinv.modNe, hinv.feeNe, hinv.gaugeNe,
      fun a v hv => hprov a v (fun e => by rw [e, hrec] at hv; cases hv) hv, hinv.nonneg, hinv.backed⟩

def Op.touchesCollateral : Op → Bool
  | .initProvider .. => true
  | .shutdownProvider .. => true
  | _ => false

/-- A successful message other than a registration or a shutdown, signed by anyone but
the escrow account, leaves the collateral records, the configuration and every balance of the
escrow account unchanged, removes no provider and creates no gauge on the escrow account. -/
theorem step_frame {s s' : State} {h now : Int} {op : Op} (hinv : CollInv s)
    (hc : op.creator ≠ s.collateralAcc) (hop : op.touchesCollateral = false)
    (hstep : step s h now op = some s') : CollFrame s s' := by
  cases op with
  | postFile => exact postFile_frame hinv hc hstep
  | buyStorage => exact buyStorage_frame hinv hc hstep
  | initProvider | shutdownProvider => cases hop
  | _ => exact (step_sameMoney rfl hstep).frame

theorem sameMoney_filePass (h : Int) (fs : List (FKey × File)) (s : State) (t : Tracker) :
    SameMoney s (filePass h fs s t).1 :=
  filePass_frame_ind (SameMoney s) (fun _ => True)
    (hRF := fun c f _ hc => hc.trans (sameMoney_removeFile c f.key))
    (hDP := fun c _ _ _ hc => ⟨hc.trans (.of_stores c fun _ h => h), trivial⟩)
    (hBurn := fun c a hc => hc.trans (sameMoney_burnContract c a)) h fs (fun _ _ => trivial) s t (.refl s)

/-- The file pass moves no money; the gauge release
pays the module account out of gauge accounts, none of which is the escrow account; the payouts go
from the module account to unblocked provers, and the escrow account is blocked. -/
theorem beginBlock_frame {s s' : State} {h now : Int} (hinv : CollInv s)
    (hb : beginBlock s h now = .ok s') : CollFrame s s' := by
  obtain ⟨-, ⟨-, rfl⟩ | ⟨-, hr⟩⟩ := beginBlock_spec hb
  · exact .refl _
  obtain ⟨s2, coins, hg, hp⟩ := manageRewards_spec hr
  have f0 := (sameMoney_filePass h s.files s []).frame
  generalize filePass h s.files s [] = r at hg hp f0
  obtain ⟨b, gs, rfl, hgs, hb⟩ := pullGauges_spec hg
  have i1 := hinv.frame f0
  have f1 := f0.trans
    (.of_sent hb (fun ⟨kv, hkv, e⟩ => i1.gaugeNe kv hkv e) (fun e => i1.modNe e.symm) hgs)
  refine foldlM_except_inv (CollFrame s) _ ?_ _ _ s' f1 hp
  intro st pw st' hst hpay
  obtain ⟨b', hb', rfl⟩ := payProver_spec hpay
  have i := hinv.frame hst
  exact hst.trans
    (.of_sent hb' (fun e => i.modNe e.symm) (fun ⟨e, _, hn⟩ => hn (e ▸ i.escBlocked)) fun _ h => h)

end Canine.Storage
