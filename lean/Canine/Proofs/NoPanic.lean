/-
For C05: each primitive of the reward block that can panic (a payout share, a gauge release) is shown
to succeed under explicit hypotheses on tracker, coins and gauges, and the stored file sizes that
argument relies on are kept by every message and by the block itself.
-/
import Canine.Proofs.Space
namespace Canine.Storage
open Bank

theorem payCoin_ok {share : Dec} (hs : 0 ≤ share.raw) {c : Coin} (hc : 0 ≤ c.2) (p : String) (st : State) :
    ∃ st', payCoin p share st c = .ok st' := by
  have hr : 0 ≤ (Dec.mul share (Dec.ofInt c.2)).raw := by
    rw [Dec.mul_ofInt_exact]; exact Int.mul_nonneg hs hc
  have h0 : ¬ Dec.trunc (Dec.mul share (Dec.ofInt c.2)) < 0 := by
    rw [Dec.trunc_of_nonneg _ hr]
    exact Int.not_lt.mpr (Int.ediv_nonneg hr (Int.le_of_lt precision_pos))
  unfold payCoin
  dsimp only
  rw [if_neg h0]
  split <;> exact ⟨_, rfl⟩

theorem payProver_ok (s : State) (total : Int) (coins : Coins) (prover : String)
    (worth : Int) (ht : 0 < total) (hw : 0 ≤ worth) (hc : ∀ c ∈ coins, 0 ≤ c.2) :
    ∃ s', payProver s total coins prover worth = .ok s' := by
  rw [payProver_eq, quo_ofInt_eq total worth hw ht]
  dsimp only
  split
  · exact ⟨s, rfl⟩
  · have key := foldlM_except_ok (fun (l : Coins) (_ : State) => ∀ c ∈ l, 0 ≤ c.2)
      (payCoin prover ⟨rawShare total worth⟩) ?_ coins s hc
    · exact ⟨key.choose, key.choose_spec.1⟩
    · intro c rest st hP
      obtain ⟨st', e⟩ := payCoin_ok (rawShare_nonneg total worth hw ht) (hP c List.mem_cons_self) prover st
      exact ⟨st', e, fun c' hc' => hP c' (List.mem_cons_of_mem _ hc')⟩

def TrackerOk (t : Tracker) : Prop := ∀ p ∈ t, 0 ≤ p.2

theorem credit_ok {t : Tracker} (ht : TrackerOk t) (p : String) {sz : Int} (hsz : 0 ≤ sz) :
    TrackerOk (credit t p sz) := by
  intro q hq
  rcases AMap.mem_set hq with hm | rfl
  · exact ht q hm
  · cases hg : AMap.get t p with
    | none => simpa using hsz
    | some v =>
      have := ht _ (AMap.mem_of_get hg)
      simp only [Option.getD_some]; omega

theorem credits_ok {sz : Int} {t t' : Tracker} (hc : Credits sz t t') (hsz : 0 ≤ sz) (ht : TrackerOk t) :
    TrackerOk t' := by
  induction hc with
  | refl => exact ht
  | step p _ ih => exact credit_ok ih p hsz

/-- the loop of `ManageRewards` over the files: the tracker only ever holds non-negative sizes, and
is non-empty only if some file lists a prover -/
theorem manageFiles_tracker (h : Int) : ∀ (l : AMap FKey File) (s : State) (t : Tracker),
    (∀ kv ∈ l, 0 ≤ kv.2.fileSize) → TrackerOk t →
    let r := l.foldl (fun (acc : State × Tracker) kv => manageFile acc.1 h acc.2 kv.2) (s, t)
    TrackerOk r.2 ∧ (r.2 = t ∨ ∃ kv ∈ l, kv.2.proofs ≠ []) := by
  intro l s t hsz ht
  have key := foldl_inv_mem (fun acc : State × Tracker =>
    TrackerOk acc.2 ∧ (acc.2 = t ∨ ∃ kv ∈ l, kv.2.proofs ≠ []))
    (fun acc kv => manageFile acc.1 h acc.2 kv.2) l ?_ (s, t) ⟨ht, Or.inl rfl⟩
  · exact key
  rintro ⟨s1, t1⟩ kv hkv ⟨k1, k2⟩
  rcases manageFile_shape s1 h t1 kv.2 with ⟨_, _, e⟩ | ⟨_, _, e4, e5⟩
  · rw [e]; exact ⟨k1, k2⟩
  · refine ⟨credits_ok e4 (hsz kv hkv) k1, ?_⟩
    by_cases hp : kv.2.proofs = []
    · rw [e5 hp]; exact k2
    · exact Or.inr ⟨kv, hkv, hp⟩

theorem total_pos (l : AMap FKey File) (hsz : ∀ kv ∈ l, 1 ≤ kv.2.fileSize)
    (hex : ∃ kv ∈ l, kv.2.proofs ≠ []) :
    0 < (l.map (fun kv => kv.2.fileSize * (kv.2.proofs.length : Int))).sum := by
  obtain ⟨kv, hkv, hne⟩ := hex
  -- every term is non-negative, so the sum is at least the term of `kv`, which is ≥ 1·1
  have hle := sum_map_sublist (fun x : FKey × File => x.2.fileSize * (x.2.proofs.length : Int))
    (List.singleton_sublist.mpr hkv)
    (fun x hx => Int.mul_nonneg (by have := hsz x hx; omega) (by omega))
  have h1 := hsz kv hkv
  have hlen := List.length_pos_iff.mpr hne
  have := Int.mul_le_mul h1 (show (1 : Int) ≤ kv.2.proofs.length by omega) (by omega) (by omega)
  simp only [List.map_cons, List.map_nil, List.sum_cons, List.sum_nil] at hle
  omega

theorem acctEmpty_set_other (b : Bank) (k : String × String) (v : Int) (a : String) (h : k.1 ≠ a) :
    acctEmpty (AMap.set b k v) a = acctEmpty b a := by
  unfold acctEmpty
  congr 1
  induction b with
  | nil => simp [AMap.set, h]
  | cons p t ih =>
    obtain ⟨k', v'⟩ := p
    by_cases hk : k' = k
    · subst hk; simp [AMap.set, h]
    · simp only [AMap.set, hk, if_false, List.filter_cons, ih]

theorem acctEmpty_sendCoin {b b' : Bank} {src dst d : String} {x : Int} (hs : sendCoin b src dst d x = some b')
    {a : String} (h1 : src ≠ a) (h2 : dst ≠ a) : acctEmpty b' a = acctEmpty b a := by
  unfold sendCoin at hs
  split at hs; · cases hs
  split at hs; · cases hs
  cases hs
  exact (acctEmpty_set_other _ (dst, d) _ a h2).trans (acctEmpty_set_other b (src, d) _ a h1)

theorem acctEmpty_send {src dst a : String} (h1 : src ≠ a) (h2 : dst ≠ a) :
    ∀ {cs : Coins} {b b' : Bank}, send b src dst cs = some b' → acctEmpty b' a = acctEmpty b a
  | [], b, b', h => by cases h; rfl
  | (d, x) :: cs, b, b', h => by
    simp only [send, Option.bind_eq_some_iff] at h
    obtain ⟨b1, hb1, hb2⟩ := h
    exact (acctEmpty_send h1 h2 hb2).trans (acctEmpty_sendCoin hb1 h1 h2)

/-- transfers leave the emptiness test of an account that neither sends nor receives as it was (the
test reads the raw entries, so this does not follow from the balances) -/
theorem acctEmpty_sent {P Q : String → Prop} {b b' : Bank} (h : Sent P Q b b') {a : String}
    (hP : ¬ P a) (hQ : ¬ Q a) : acctEmpty b' a = acctEmpty b a := by
  induction h with
  | refl => rfl
  | step hp hq hs _ ih =>
    exact ih.trans (acctEmpty_send (a := a) (fun e => hP (e ▸ hp)) (fun e => hQ (e ▸ hq)) hs)

/-- no panic for this coin in `pullGauge` (rewards.go): `TruncateInt64` panics out of int64 range,
`sdk.NewInt64Coin` on a negative amount -/
def CoinSafe (ratio : Dec) (amount bal : Int) : Prop :=
  0 ≤ gaugeAmt ratio amount bal ∧ I64.inRange (gaugeAmt ratio amount bal) = true

theorem addCoinTo_nonneg {cs : Coins} (h : ∀ c ∈ cs, 0 ≤ c.2) (d : String) {x : Int} (hx : 0 ≤ x) :
    ∀ c ∈ pullGauge.addCoinTo cs d x, 0 ≤ c.2 := by
  intro c hc
  unfold pullGauge.addCoinTo at hc
  split at hc
  · simp only [List.mem_map] at hc
    obtain ⟨c0, hc0, e⟩ := hc
    have := h c0 hc0
    split at e
    · subst e; simp only; omega
    · subst e; exact this
  · simp only [List.mem_append, List.mem_singleton] at hc
    rcases hc with hc | e
    · exact h c hc
    · subst e; exact hx

theorem coinStep_ok {g : Gauge} {ratio : Dec} {st : State} {rl : Coins} {c : Coin}
    (h : CoinSafe ratio c.2 (bal st.bank g.account c.1)) : ∃ r, coinStep g ratio (st, rl) c = .ok r := by
  obtain ⟨h0, hin⟩ := h
  unfold coinStep
  simp only [hin, Bool.not_true, Bool.false_eq_true, if_false]
  split
  · exact ⟨_, rfl⟩
  · rw [if_neg (by omega)]
    split <;> exact ⟨_, rfl⟩

/-- the coin loop of a gauge never panics when every coin is safe against the current ledger; a
transfer in one denomination leaves the balances of the others (listed once each) as they were -/
theorem pullCoins_ok (g : Gauge) (ratio : Dec) (coins : Coins) (st : State) (rel : Coins)
    (hnd : (coins.map (·.1)).Nodup)
    (hsafe : ∀ c ∈ coins, CoinSafe ratio c.2 (bal st.bank g.account c.1))
    (hrel : ∀ c ∈ rel, 0 ≤ c.2) :
    ∃ st' rel', coins.foldlM (coinStep g ratio) (st, rel) = .ok (st', rel') ∧ ∀ c ∈ rel', 0 ≤ c.2 := by
  have key := foldlM_except_ok (fun (l : Coins) (acc : State × Coins) => (l.map (·.1)).Nodup ∧
      (∀ c ∈ l, CoinSafe ratio c.2 (bal acc.1.bank g.account c.1)) ∧ ∀ c ∈ acc.2, 0 ≤ c.2)
    (coinStep g ratio) ?_ coins (st, rel) ⟨hnd, hsafe, hrel⟩
  · obtain ⟨⟨st', rel'⟩, e, -, -, hr⟩ := key
    exact ⟨st', rel', e, hr⟩
  · rintro c rest ⟨st, rl⟩ ⟨hnd, hsafe, hrel⟩
    rw [List.map_cons, List.nodup_cons] at hnd
    have hrest := fun c' hc' => hsafe c' (List.mem_cons_of_mem _ hc')
    obtain ⟨⟨st', rl'⟩, e⟩ := coinStep_ok (rl := rl) (hsafe c List.mem_cons_self)
    refine ⟨_, e, hnd.2, ?_⟩
    obtain ⟨x, -, ⟨-, rfl, rfl⟩ | ⟨hpos, -, rfl, ⟨b, hs, rfl⟩ | ⟨-, rfl⟩⟩⟩ := coinStep_spec e
    · exact ⟨hrest, hrel⟩
    · refine ⟨fun c' hc' => ?_, addCoinTo_nonneg hrel c.1 (Int.le_of_lt hpos)⟩
      have hne : c.1 ≠ c'.1 := fun e => hnd.1 (e ▸ List.mem_map_of_mem hc')
      have hb : bal b g.account c'.1 = bal st.bank g.account c'.1 := by
        simpa [amt, hne] using bal_send hs g.account c'.1
      show CoinSafe ratio c'.2 (bal b g.account c'.1)
      rw [hb]; exact hrest c' hc'
    · exact ⟨hrest, addCoinTo_nonneg hrel c.1 (Int.le_of_lt hpos)⟩

/-- one gauge is safe against ledger `b` at block time `now`: if it is live and its escrow account
is funded, the duration is not zero microseconds and every coin's release is non-negative and in
int64 range -/
def GaugeSafe (b : Bank) (now : Int) (g : Gauge) : Prop :=
  g.startT < g.endT → now ≤ g.endT → acctEmpty b g.account = false →
    ∃ q, Dec.quo? (Dec.ofInt (Int.tdiv g.endT 1000 - Int.tdiv now 1000))
            (Dec.ofInt (Int.tdiv g.endT 1000 - Int.tdiv g.startT 1000)) = some q ∧
      ∀ c ∈ g.coins, CoinSafe (Dec.sub Dec.one q) c.2 (bal b g.account c.1)

theorem GaugeSafe.of_sent {P Q : String → Prop} {b b' : Bank} {now : Int} {g : Gauge} (h : GaugeSafe b now g)
    (hs : Sent P Q b b') (hP : ¬ P g.account) (hQ : ¬ Q g.account) : GaugeSafe b' now g := by
  intro h1 h2 h3
  rw [acctEmpty_sent hs hP hQ] at h3
  obtain ⟨q, hq, hc⟩ := h h1 h2 h3
  exact ⟨q, hq, fun c hcm => by rw [hs.bal_eq hP hQ]; exact hc c hcm⟩

theorem pullGauge_ok (s : State) (now : Int) (rel : Coins) (g : Gauge)
    (hsafe : GaugeSafe s.bank now g) (hnd : (g.coins.map (·.1)).Nodup) (hrel : ∀ c ∈ rel, 0 ≤ c.2) :
    ∃ s' rel', pullGauge s now rel g = .ok (s', rel') ∧ ∀ c ∈ rel', 0 ≤ c.2 := by
  by_cases hd : g.endT < now ∨ g.endT ≤ g.startT ∨ acctEmpty s.bank g.account = true
  · exact ⟨_, rel, by rw [pullGauge_eq, if_pos hd], hrel⟩
  · rw [pullGauge_eq, if_neg hd]
    simp only [not_or, Bool.not_eq_true] at hd
    obtain ⟨q, hq, hc⟩ := hsafe (by omega) (by omega) hd.2.2
    rw [hq]
    exact pullCoins_ok g _ g.coins s rel hnd hc hrel

/-- the hypothesis of `C05_beginBlock_never_panics` about the gauges at block time `now`:
every gauge is safe against the current ledger; escrow accounts are distinct from the module
account and from one another (each is derived from the gauge id), and a gauge records each
denomination once. -/
structure GaugesSafe (s : State) (now : Int) : Prop where
  safe : ∀ kv ∈ s.gauges, GaugeSafe s.bank now kv.2
  accNeMod : ∀ kv ∈ s.gauges, kv.2.account ≠ s.moduleAcc
  accDistinct : s.gauges.Pairwise (fun x y => x.2.account ≠ y.2.account)
  denomsDistinct : ∀ kv ∈ s.gauges, (kv.2.coins.map (·.1)).Nodup

theorem GaugesSafe.congr {s s' : State} {now : Int} (hb : s'.bank = s.bank) (hg : s'.gauges = s.gauges)
    (hm : s'.moduleAcc = s.moduleAcc) (h : GaugesSafe s now) : GaugesSafe s' now := by
  obtain ⟨a, b, c, d⟩ := h
  constructor
  · rw [hb, hg]; exact a
  · rw [hg, hm]; exact b
  · rw [hg]; exact c
  · rw [hg]; exact d

/-- releasing from every gauge never panics, and releases only non-negative amounts: a release
moves tokens between its gauge's escrow account and the module account only, so the gauges still to
come stay safe -/
theorem pullGauges_ok (s : State) (now : Int) (h : GaugesSafe s now) :
    ∃ s' rel, pullGauges s now = .ok (s', rel) ∧ ∀ c ∈ rel, 0 ≤ c.2 := by
  rw [pullGauges_eq]
  have key := foldlM_except_ok (fun (rest : List (String × Gauge)) (acc : State × Coins) =>
      acc.1.moduleAcc = s.moduleAcc ∧ (∀ c ∈ acc.2, 0 ≤ c.2) ∧
      (∀ kv ∈ rest, GaugeSafe acc.1.bank now kv.2 ∧ kv.2.account ≠ s.moduleAcc ∧
        (kv.2.coins.map (·.1)).Nodup) ∧
      rest.Pairwise (fun x y => x.2.account ≠ y.2.account))
    (fun (acc : State × Coins) kv => pullGauge acc.1 now acc.2 kv.2) ?_ s.gauges (s, [])
    ⟨rfl, by simp, fun kv hkv => ⟨h.safe kv hkv, h.accNeMod kv hkv, h.denomsDistinct kv hkv⟩, h.accDistinct⟩
  · obtain ⟨⟨s', rel⟩, e, -, hr, -⟩ := key
    exact ⟨s', rel, e, hr⟩
  · rintro kv rest ⟨st, rel⟩ ⟨p1, p2, p3, p4⟩
    obtain ⟨g1, -, g3⟩ := p3 kv List.mem_cons_self
    obtain ⟨st', rel', e, r⟩ := pullGauge_ok st now rel kv.2 g1 g3 p2
    rw [List.pairwise_cons] at p4
    have hrest := fun kv' hkv' => p3 kv' (List.mem_cons_of_mem _ hkv')
    refine ⟨(st', rel'), e, ?_⟩
    rcases pullGauge_spec e with ⟨rfl, -⟩ | ⟨b, hb, rfl⟩
    · exact ⟨p1, r, hrest, p4.2⟩
    · refine ⟨p1, r, fun kv' hkv' => ?_, p4.2⟩
      obtain ⟨q1, q2, q3⟩ := hrest kv' hkv'
      exact ⟨q1.of_sent hb (Ne.symm (p4.1 kv' hkv')) (fun e => q2 (e.trans p1)), q2, q3⟩

def SizesOkF (F : AMap FKey File) : Prop := ∀ kv ∈ F, 1 ≤ kv.2.fileSize ∧ 1 ≤ kv.2.maxProofs

theorem SizesOkF.set {F : AMap FKey File} (h : SizesOkF F) (k : FKey) {f : File}
    (hf : 1 ≤ f.fileSize ∧ 1 ≤ f.maxProofs) : SizesOkF (AMap.set F k f) := by
  intro kv hkv
  rcases AMap.mem_set hkv with hm | rfl
  · exact h kv hm
  · exact hf

theorem SizesOkF.erase {F : AMap FKey File} (h : SizesOkF F) (k : FKey) : SizesOkF (AMap.erase F k) :=
  fun kv hkv => h kv (AMap.mem_erase hkv)

theorem SizesOkF.of_get {F : AMap FKey File} (h : SizesOkF F) {k : FKey} {f : File}
    (hg : AMap.get F k = some f) : 1 ≤ f.fileSize ∧ 1 ≤ f.maxProofs := h (k, f) (AMap.mem_of_get hg)

theorem removeFile_sizes {s : State} (h : SizesOkF s.files) (k : FKey) : SizesOkF (removeFile s k).files := by
  cases hg : AMap.get s.files k with
  | none => rw [removeFile_none hg]; exact h
  | some f => rw [removeFile_some hg]; exact h.erase k

theorem SizesOkF.rewrites {F F' : AMap FKey File} {file : File} (h : SizesOkF F)
    (hf : 1 ≤ file.fileSize ∧ 1 ≤ file.maxProofs) (hr : Rewrites file F F') : SizesOkF F' := by
  induction hr with
  | refl => exact h
  | step g _ hg ih =>
    obtain ⟨_, _, _, a4, a5⟩ := acct_eq hg
    exact ih.set _ (by rw [a4, a5]; exact hf)

theorem beginBlock_sizes {s s' : State} {h now : Int} (hs : SizesOkF s.files)
    (hb : beginBlock s h now = .ok s') : SizesOkF s'.files ∧ s'.params = s.params :=
  beginBlock_ind (fun c => SizesOkF c.files ∧ c.params = s.params) (fun f => 1 ≤ f.fileSize ∧ 1 ≤ f.maxProofs)
    (hRF := fun c f _ hc => ⟨removeFile_sizes hc.1 _, (removeFile_params c _).trans hc.2⟩)
    (hDP := fun _ _ _ hf hc => ⟨⟨hc.1.set _ hf, hc.2⟩, hf⟩)
    (hBurn := fun c a hc => by rw [burnContract_writes]; exact hc)
    (hBank := fun _ _ hc => hc) (hG := fun _ _ hc => hc)
    hs hb ⟨hs, rfl⟩

theorem step_sizes {s s' : State} {h now : Int} {op : Op} (hs : SizesOkF s.files)
    (hstep : step s h now op = some s') : SizesOkF s'.files ∧ s'.params = s.params := by
  cases op with
  | postFile c m fs mp ex pt note nv jp gid gacc =>
    have hr := (removeFile_sizes hs (m, c, h)).set (m, c, h) (f := newFile s h c m fs mp ex pt note)
    have hp := removeFile_params s (m, c, h)
    obtain ⟨-, h1, h2, -⟩ := postFile_spec hstep
    obtain ⟨_, _, _, rfl⟩ := postFile_writes hstep
    exact ⟨hr ⟨h1, h2⟩, hp⟩
  | deleteFile c m st =>
    cases hstep
    exact ⟨removeFile_sizes hs _, removeFile_params s _⟩
  | buyStorage c fa dd b dn ref jp gid gacc =>
    obtain ⟨-, hp, hF, -⟩ := buyStorage_shape hstep
    exact ⟨hF ▸ hs, hp⟩
  | postProof c m o st tp v nc =>
    cases hstep
    rcases postProof_outcome s h c m o st tp v nc with e | ⟨f, p, -, -, -, -, -, e⟩ | ⟨f, hf, -, -, -, -, e⟩
    · rw [e]; exact ⟨hs, rfl⟩
    · rw [e]; exact ⟨hs, rfl⟩
    · have hf := hs.of_get hf
      rw [e]; exact ⟨hs.set _ hf, rfl⟩
  | report c p m o st =>
    obtain ⟨form, -, -, ⟨-, rfl⟩ | ⟨-, f, hf, rfl⟩⟩ := report_cases hstep
    · exact ⟨hs, rfl⟩
    · have hf := hs.of_get hf
      exact removeProver_cases (fun c => SizesOkF c.files ∧ c.params = s.params) ⟨hs.set _ hf, rfl⟩ ⟨hs, rfl⟩
  | _ =>
    obtain ⟨e1, -, e2⟩ := step_frame_space hstep rfl
    exact ⟨e1 ▸ hs, e2⟩

end Canine.Storage
