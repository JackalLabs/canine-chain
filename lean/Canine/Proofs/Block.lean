/-
The storage BeginBlocker (`Canine/Storage/Reward.lean`) taken apart once: the per-proof step as two
equations over `passes`, the per-file loop (`runProofs`, `filePass`), the gauge release as a fold
of `coinStep`, the payout as a fold of `payCoin`, and inversions of `pullGauge`, `payProver`,
`manageRewards` and `beginBlock` that say which stores they write and how the ledger moves
(`Bank.Sent`).  Core Lean only.
-/
import Canine.Proofs.Handlers
namespace Canine.Storage
open Bank

theorem burnContract_writes (s : State) (x : String) :
    burnContract s x = { s with providers := (burnContract s x).providers } := by
  unfold burnContract
  split
  · rfl
  · split <;> rfl

theorem credit_keys (t : Tracker) (n : String) (x : Int) (a : String) :
    a ∈ AMap.keys (credit t n x) ↔ a ∈ AMap.keys t ∨ a = n := by
  unfold credit
  rw [AMap.keys_set]
  split
  · rename_i hn
    exact ⟨Or.inl, fun h => h.elim id (fun e => e ▸ hn)⟩
  · simp

theorem burnContract_cases (s : State) (a : String) :
    burnContract s a = s ∨
    ∃ p b, AMap.get s.providers a = some p ∧
      burnContract s a = { s with providers := AMap.set s.providers a { p with burned := some (b + 1) } } := by
  unfold burnContract
  split
  · exact Or.inl rfl
  · rename_i p hp
    split
    · exact Or.inl rfl
    · exact Or.inr ⟨p, _, hp, rfl⟩

/-- `n` more burned contracts -/
def bump (n : Int) (p : Provider) : Provider := { p with burned := p.burned.map (· + n) }

theorem map_bump_zero (o : Option Provider) : o.map (bump 0) = o := by
  cases o with
  | none => rfl
  | some p => cases p; simp [bump]

theorem map_bump_bump (o : Option Provider) (n m : Int) : (o.map (bump n)).map (bump m) = o.map (bump (n + m)) := by
  cases o with
  | none => rfl
  | some p => cases p with | mk a b c d e f g => cases d <;> simp [bump, Int.add_assoc]

theorem burnContract_providers (s : State) (x y : String) :
    AMap.get (burnContract s x).providers y = (AMap.get s.providers y).map (bump (if x = y then 1 else 0)) := by
  unfold burnContract
  by_cases hxy : x = y
  · subst hxy
    simp only [if_true]
    cases hg : AMap.get s.providers x with
    | none => simp [hg]
    | some p =>
      simp only
      cases hb : p.burned with
      | none => simp only [hg, Option.map_some]; cases p; simp_all [bump]
      | some b => simp only [AMap.get_set_self, Option.map_some]; cases p; simp_all [bump]
  · simp only [hxy, if_false]
    rw [map_bump_zero]
    cases hg : AMap.get s.providers x with
    | none => rfl
    | some p =>
      simp only
      cases hb : p.burned with
      | none => rfl
      | some b => simp only [AMap.get_set_other hxy]

/-- the prover listed under `pk` met its obligation at the reward block of height `h` -/
def passes (s : State) (h : Int) (file : File) (pk : PKey) : Bool :=
  match AMap.get s.proofs pk with
  | some p => isYoung h file.start file.proofInterval || provenLastBlock h file.start file.proofInterval p.lastProven
  | none => isYoung h file.start file.proofInterval

/-- the tracker name credited for `pk`: the record's prover, or "" (the zero-valued proof) -/
def creditName (s : State) (pk : PKey) : String :=
  match AMap.get s.proofs pk with
  | some p => p.prover
  | none => ""

theorem passes_congr {s s' : State} {h : Int} {f f' : File} {pk : PKey}
    (h1 : AMap.get s'.proofs pk = AMap.get s.proofs pk) (h2 : f'.start = f.start)
    (h3 : f'.proofInterval = f.proofInterval) : passes s' h f' pk = passes s h f pk := by
  unfold passes; rw [h1, h2, h3]

theorem creditName_congr {s s' : State} {pk : PKey}
    (h1 : AMap.get s'.proofs pk = AMap.get s.proofs pk) : creditName s' pk = creditName s pk := by
  unfold creditName; rw [h1]

theorem creditName_cases (s : State) (pk : PKey) :
    creditName s pk = "" ∨ ∃ p, AMap.get s.proofs pk = some p ∧ p.prover = creditName s pk := by
  unfold creditName
  cases AMap.get s.proofs pk with
  | none => exact Or.inl rfl
  | some p => exact Or.inr ⟨p, rfl, rfl⟩

theorem manageProof_pass (s : State) (h : Int) (t : Tracker) (f : File) (pk : PKey)
    (hp : passes s h f pk = true) :
    manageProof s h t f pk = (s, credit t (creditName s pk) f.fileSize, f) := by
  unfold passes at hp
  unfold manageProof creditName
  cases hg : AMap.get s.proofs pk with
  | none => simp only [hg] at hp ⊢; simp [hp]
  | some p =>
    simp only [hg] at hp ⊢
    have : (!provenLastBlock h f.start f.proofInterval p.lastProven && !isYoung h f.start f.proofInterval) = false := by
      cases h1 : provenLastBlock h f.start f.proofInterval p.lastProven <;> cases h2 : isYoung h f.start f.proofInterval <;> simp_all
    simp [this]

/-- a key that does not pass: the prover is removed (`removeProver` ignores a key no longer listed),
and a burn is counted against it if it has a record -/
theorem manageProof_fail (s : State) (h : Int) (t : Tracker) (f : File) (pk : PKey)
    (hp : passes s h f pk = false) :
    manageProof s h t f pk =
      (if (AMap.get s.proofs pk).isSome then burnContract (removeProver s f pk).1 pk.1 else (removeProver s f pk).1,
       t, (removeProver s f pk).2) := by
  unfold passes at hp
  unfold manageProof
  cases hg : AMap.get s.proofs pk with
  | none => simp only [hg] at hp ⊢; simp [hp]
  | some p =>
    simp only [hg, Bool.or_eq_false_iff] at hp ⊢
    simp [hp.1, hp.2]

theorem manageProof_eq (s : State) (h : Int) (t : Tracker) (f : File) (pk : PKey) :
    manageProof s h t f pk =
      if passes s h f pk = true then (s, credit t (creditName s pk) f.fileSize, f)
      else (if (AMap.get s.proofs pk).isSome then burnContract (removeProver s f pk).1 pk.1
            else (removeProver s f pk).1, t, (removeProver s f pk).2) := by
  cases hp : passes s h f pk
  · rw [if_neg Bool.false_ne_true]; exact manageProof_fail s h t f pk hp
  · rw [if_pos rfl]; exact manageProof_pass s h t f pk hp

/-- the loop of `manageFile` from an arbitrary intermediate point -/
def runProofs (h : Int) (l : List PKey) (s : State) (t : Tracker) (f : File) : State × Tracker × File :=
  l.foldl (fun (acc : State × Tracker × File) pk => manageProof acc.1 h acc.2.1 acc.2.2 pk) (s, t, f)

theorem runProofs_cons (h : Int) (pk : PKey) (l : List PKey) (s : State) (t : Tracker) (f : File) :
    runProofs h (pk :: l) s t f =
      runProofs h l (manageProof s h t f pk).1 (manageProof s h t f pk).2.1 (manageProof s h t f pk).2.2 := rfl

theorem manageFile_eq (s : State) (h : Int) (t : Tracker) (file : File) :
    manageFile s h t file =
      let s1 := if file.proofs.isEmpty && !(isYoung h file.start file.proofInterval) then removeFile s file.key else s
      ((runProofs h file.proofs s1 t file).1, (runProofs h file.proofs s1 t file).2.1) := rfl

theorem manageFile_drop (s : State) {h : Int} (t : Tracker) {file : File} (hnone : file.proofs = [])
    (hold : isYoung h file.start file.proofInterval = false) :
    manageFile s h t file = (removeFile s file.key, t) := by
  rw [manageFile_eq, hnone, hold]; rfl

theorem manageFile_cases (s : State) (h : Int) (t : Tracker) (file : File) :
    (file.proofs = [] ∧ isYoung h file.start file.proofInterval = false ∧
      manageFile s h t file = (removeFile s file.key, t)) ∨
    ((file.proofs ≠ [] ∨ isYoung h file.start file.proofInterval = true) ∧
      manageFile s h t file =
        ((runProofs h file.proofs s t file).1, (runProofs h file.proofs s t file).2.1)) := by
  rw [manageFile_eq]
  cases hy : isYoung h file.start file.proofInterval with
  | true => exact Or.inr ⟨Or.inr rfl, by simp⟩
  | false =>
    cases hl : file.proofs with
    | nil => exact Or.inl ⟨rfl, rfl, by simp [runProofs]⟩
    | cons a l => exact Or.inr ⟨Or.inl (by simp), by simp⟩

/-- the file pass of `manageRewards` from an arbitrary point -/
def filePass (h : Int) (fs : List (FKey × File)) (c : State) (t : Tracker) : State × Tracker :=
  fs.foldl (fun (acc : State × Tracker) kv => manageFile acc.1 h acc.2 kv.2) (c, t)

theorem filePass_cons (h : Int) (kv : FKey × File) (fs : List (FKey × File)) (c : State) (t : Tracker) :
    filePass h (kv :: fs) c t = filePass h fs (manageFile c h t kv.2).1 (manageFile c h t kv.2).2 := rfl

/-- the total the block computes at its start -/
def blockTotal (fs : List (FKey × File)) : Int :=
  (fs.map (fun kv => kv.2.fileSize * (kv.2.proofs.length : Int))).sum

/-- the emptiness test `pullGauge` applies to a gauge's escrow account -/
def acctEmpty (b : Bank) (a : String) : Bool := (b.filter (fun p => p.1.1 = a ∧ p.2 ≠ 0)).isEmpty

/-- the amount `pullGauge` releases for one coin of a gauge -/
def gaugeAmt (ratio : Dec) (amount bal : Int) : Int :=
  Dec.trunc (Dec.sub (Dec.mul ratio (Dec.ofInt amount)) (Dec.ofInt (amount - bal)))

/-- the body of the loop over a gauge's coins -/
def coinStep (g : Gauge) (ratio : Dec) (acc : State × Coins) (coin : Coin) : Except String (State × Coins) :=
  let amt := gaugeAmt ratio coin.2 (Bank.bal acc.1.bank g.account coin.1)
  if !(I64.inRange amt) then .error "Int64() out of bound"
  else if amt = 0 then .ok (acc.1, acc.2)
  else if amt < 0 then .error s!"negative coin amount: {amt}"
  else
    let rel' := pullGauge.addCoinTo acc.2 coin.1 amt
    match Bank.send acc.1.bank g.account acc.1.moduleAcc [(coin.1, amt)] with
    | some b => .ok ({ acc.1 with bank := b }, rel')
    | none => .ok (acc.1, rel')

theorem pullGauge_eq (s : State) (now : Int) (rel : Coins) (g : Gauge) :
    pullGauge s now rel g =
      if g.endT < now ∨ g.endT ≤ g.startT ∨ acctEmpty s.bank g.account = true then
        .ok ({ s with gauges := AMap.erase s.gauges g.id }, rel)
      else
        match Dec.quo? (Dec.ofInt (Int.tdiv g.endT 1000 - Int.tdiv now 1000))
                (Dec.ofInt (Int.tdiv g.endT 1000 - Int.tdiv g.startT 1000)) with
        | none => .error "division by zero (gauge shorter than a microsecond)"
        | some q => g.coins.foldlM (coinStep g (Dec.sub Dec.one q)) (s, rel) := by
  unfold pullGauge acctEmpty
  by_cases h1 : g.endT < now
  · rw [if_pos h1, if_pos (Or.inl h1)]
  by_cases h2 : g.endT ≤ g.startT
  · rw [if_neg h1, if_pos h2, if_pos (Or.inr (Or.inl h2))]
  rw [if_neg h1, if_neg h2]
  show (if (List.filter _ s.bank).isEmpty = true then _ else _) = _
  cases h3 : (List.filter (fun p => decide (p.1.1 = g.account ∧ p.2 ≠ 0)) s.bank).isEmpty
  · rw [if_neg Bool.false_ne_true, if_neg (fun h => h.elim h1 (·.elim h2 Bool.false_ne_true))]
    rfl
  · rw [if_pos rfl, if_pos (Or.inr (Or.inr rfl))]

/-- a successful step of the coin loop, by the amount it computes: nothing is due and nothing
changes, or a positive amount within int64 is recorded and, if the escrow account holds it, moved to
the module account -/
theorem coinStep_spec {g : Gauge} {ratio : Dec} {st st' : State} {rl rl' : Coins} {c : Coin}
    (h : coinStep g ratio (st, rl) c = .ok (st', rl')) :
    ∃ amt, amt = gaugeAmt ratio c.2 (bal st.bank g.account c.1) ∧
      ((amt = 0 ∧ st' = st ∧ rl' = rl) ∨
       (0 < amt ∧ I64.inRange amt = true ∧ rl' = pullGauge.addCoinTo rl c.1 amt ∧
        ((∃ b, send st.bank g.account st.moduleAcc [(c.1, amt)] = some b ∧ st' = { st with bank := b }) ∨
         (send st.bank g.account st.moduleAcc [(c.1, amt)] = none ∧ st' = st)))) := by
  unfold coinStep at h
  refine ⟨_, rfl, ?_⟩
  generalize gaugeAmt ratio c.2 (bal st.bank g.account c.1) = amt at h ⊢
  dsimp only at h
  by_cases hr : (!I64.inRange amt) = true
  · rw [if_pos hr] at h; cases h
  by_cases hz : amt = 0
  · rw [if_neg hr, if_pos hz] at h; cases h; exact Or.inl ⟨hz, rfl, rfl⟩
  by_cases hn : amt < 0
  · rw [if_neg hr, if_neg hz, if_pos hn] at h; cases h
  rw [if_neg hr, if_neg hz, if_neg hn] at h
  refine Or.inr ⟨by omega, by simpa using hr, ?_⟩
  cases hs : send st.bank g.account st.moduleAcc [(c.1, amt)] with
  | some b => rw [hs] at h; cases h; exact ⟨rfl, Or.inl ⟨b, rfl, rfl⟩⟩
  | none => rw [hs] at h; cases h; exact ⟨rfl, Or.inr ⟨rfl, rfl⟩⟩

/-- a successful `pullGauge` closes the gauge, or runs the coin loop with an elapsed fraction of at
most one -/
theorem pullGauge_cases {s s' : State} {now : Int} {rel rel' : Coins} {g : Gauge}
    (h : pullGauge s now rel g = .ok (s', rel')) :
    (s' = { s with gauges := AMap.erase s.gauges g.id } ∧ rel' = rel) ∨
    ∃ ratio : Dec, ratio.raw ≤ precision ∧ g.coins.foldlM (coinStep g ratio) (s, rel) = .ok (s', rel') := by
  rw [pullGauge_eq] at h
  by_cases hdead : g.endT < now ∨ g.endT ≤ g.startT ∨ acctEmpty s.bank g.account = true
  · rw [if_pos hdead] at h
    cases h; exact Or.inl ⟨rfl, rfl⟩
  rw [if_neg hdead] at h
  have hleft := Int.sub_nonneg.mpr (tdiv1000_mono (Int.not_lt.mp (fun e => hdead (Or.inl e))))
  have htot := Int.sub_nonneg.mpr (tdiv1000_mono
    (Int.le_of_lt (Int.not_le.mp (fun e => hdead (Or.inr (Or.inl e))))))
  generalize Int.tdiv g.endT 1000 - Int.tdiv now 1000 = l at h hleft
  generalize Int.tdiv g.endT 1000 - Int.tdiv g.startT 1000 = T at h htot
  by_cases hz : T = 0
  · rw [hz, show Dec.quo? (Dec.ofInt l) (Dec.ofInt 0) = none from rfl] at h
    cases h
  rw [quo_ofInt_eq T l (by omega) (by omega)] at h
  have := rawShare_nonneg T l (by omega) (by omega)
  exact Or.inr ⟨_, by simp only [Dec.sub, Dec.one, Dec.ofInt]; omega, h⟩

/-- `pullGauge` either closes the gauge, or leaves every store alone and moves tokens from the
gauge's escrow account to the module account -/
theorem pullGauge_spec {s s' : State} {now : Int} {rel rel' : Coins} {g : Gauge}
    (h : pullGauge s now rel g = .ok (s', rel')) :
    (s' = { s with gauges := AMap.erase s.gauges g.id } ∧ rel' = rel) ∨
    ∃ b, Sent (· = g.account) (· = s.moduleAcc) s.bank b ∧ s' = { s with bank := b } := by
  rcases pullGauge_cases h with e | ⟨ratio, -, h⟩
  · exact Or.inl e
  · refine Or.inr (foldlM_except_inv
      (fun (acc : State × Coins) => ∃ b, Sent (· = g.account) (· = s.moduleAcc) s.bank b ∧
        acc.1 = { s with bank := b }) _ ?_ _ (s, rel) (s', rel') ⟨s.bank, .refl _, rfl⟩ h)
    rintro ⟨st, rl⟩ c ⟨st2, rl2⟩ ⟨b, hb, e⟩ hc
    dsimp only at e; subst e
    obtain ⟨amt, -, ⟨-, e, -⟩ | ⟨-, -, -, ⟨b2, hs, e⟩ | ⟨-, e⟩⟩⟩ := coinStep_spec hc
    · exact ⟨b, hb, e⟩
    · exact ⟨b2, hb.trans (.one rfl rfl hs), e⟩
    · exact ⟨b, hb, e⟩

theorem pullGauges_eq (s : State) (now : Int) :
    pullGauges s now =
      s.gauges.foldlM (fun (acc : State × Coins) kv => pullGauge acc.1 now acc.2 kv.2) (s, []) := rfl

/-- the gauge pass writes only the ledger and the gauge store; it deletes gauges, never adds one, and
only the module account receives -/
theorem pullGauges_spec {s s' : State} {now : Int} {rel : Coins} (h : pullGauges s now = .ok (s', rel)) :
    ∃ b gs, s' = { s with bank := b, gauges := gs } ∧ (∀ kv ∈ gs, kv ∈ s.gauges) ∧
      Sent (fun a => ∃ kv ∈ s.gauges, kv.2.account = a) (· = s.moduleAcc) s.bank b := by
  refine foldlM_except_inv_mem
    (fun (acc : State × Coins) => ∃ b gs, acc.1 = { s with bank := b, gauges := gs } ∧
      (∀ kv ∈ gs, kv ∈ s.gauges) ∧
      Sent (fun a => ∃ kv ∈ s.gauges, kv.2.account = a) (· = s.moduleAcc) s.bank b)
    _ s.gauges ?_ (s, []) (s', rel) ⟨s.bank, s.gauges, rfl, fun _ h => h, .refl _⟩ h
  rintro ⟨st, rl⟩ kv ⟨st2, rl2⟩ hkv ⟨b, gs, e, hgs, hb⟩ hc
  dsimp only at e; subst e
  rcases pullGauge_spec hc with ⟨e, -⟩ | ⟨b2, hs, e⟩
  · exact ⟨b, AMap.erase gs kv.2.id, e, fun x hx => hgs x (AMap.mem_erase hx), hb⟩
  · exact ⟨b2, gs, e, hgs, hb.trans (hs.mono (fun a ha => ⟨kv, hkv, ha.symm⟩) (fun _ ha => ha))⟩

/-- the step of the inner loop of `payProver` -/
def payCoin (prover : String) (share : Dec) (st : State) (coin : Coin) : Except String State :=
  let owed := Dec.trunc (Dec.mul share (Dec.ofInt coin.2))
  if owed < 0 then .error s!"negative coin amount: {owed}"
  else
    match (Bank.newCoins coin.1 owed).bind (fun c => sendFromModule st st.moduleAcc prover c) with
    | some b => .ok { st with bank := b }
    | none => .ok st

theorem payProver_eq (s : State) (total : Int) (coins : Coins) (prover : String) (worth : Int) :
    payProver s total coins prover worth =
      match Dec.quo? (Dec.ofInt worth) (Dec.ofInt total) with
      | none => .error "division by zero"
      | some share => if prover = "" then .ok s else coins.foldlM (payCoin prover share) s := by
  unfold payProver payCoin; rfl

/-- a successful step of the inner loop of `payProver`: the amount is not negative, and either nothing
moved or the coin (none, if the amount is zero) went to a prover that is not blocked -/
theorem payCoin_spec {p : String} {share : Dec} {st st' : State} {coin : Coin}
    (h : payCoin p share st coin = .ok st') :
    0 ≤ Dec.trunc (Dec.mul share (Dec.ofInt coin.2)) ∧
    (st' = st ∨ (p ∉ st.blocked ∧ ∃ b, send st.bank st.moduleAcc p
        (coinsOf coin.1 (Dec.trunc (Dec.mul share (Dec.ofInt coin.2)))) = some b ∧ st' = { st with bank := b })) := by
  unfold payCoin at h
  dsimp only at h
  split at h
  · cases h
  rename_i h0
  refine ⟨by omega, ?_⟩
  split at h
  · rename_i b hb
    cases h
    obtain ⟨cs, hcs, hs⟩ := Option.bind_eq_some_iff.mp hb
    rw [(newCoins_some hcs).2] at hs
    exact Or.inr ⟨sendFromModule_not_blocked hs, b, (sendFromModule_spec hs).2, rfl⟩
  · cases h; exact Or.inl rfl

/-- paying one prover writes only the ledger: transfers from the module account to that prover; the
entry of the zero-valued proof (`""`) is skipped -/
theorem payProver_spec {s s' : State} {total : Int} {coins : Coins} {p : String} {w : Int}
    (h : payProver s total coins p w = .ok s') :
    ∃ b, Sent (· = s.moduleAcc) (fun a => a = p ∧ p ≠ "" ∧ p ∉ s.blocked) s.bank b ∧
      s' = { s with bank := b } := by
  rw [payProver_eq] at h
  split at h
  · cases h
  split at h
  · cases h; exact ⟨s.bank, .refl _, rfl⟩
  · rename_i hp
    refine foldlM_except_inv
      (fun (st : State) => ∃ b, Sent (· = s.moduleAcc) (fun a => a = p ∧ p ≠ "" ∧ p ∉ s.blocked) s.bank b ∧
        st = { s with bank := b }) _ ?_ _ s s' ⟨s.bank, .refl _, rfl⟩ h
    rintro st c st2 ⟨b, hb, e⟩ hc
    subst e
    rcases (payCoin_spec hc).2 with e | ⟨hnb, b2, hs, e⟩
    · exact ⟨b, hb, e⟩
    · exact ⟨b2, hb.trans (.one rfl ⟨rfl, hp, hnb⟩ hs), e⟩

/-- the payout loop writes only the ledger: transfers from the module account to listed names that
are not blocked -/
theorem payLoop_spec {total : Int} {coins : Coins} {l : List (String × Int)} {s s' : State}
    (h : l.foldlM (fun st pw => payProver st total coins pw.1 pw.2) s = .ok s') :
    ∃ b, Sent (· = s.moduleAcc) (fun a => a ∈ l.map (·.1) ∧ a ≠ "" ∧ a ∉ s.blocked) s.bank b ∧
      s' = { s with bank := b } := by
  refine foldlM_except_inv_mem
    (fun (st : State) => ∃ b, Sent (· = s.moduleAcc) (fun a => a ∈ l.map (·.1) ∧ a ≠ "" ∧ a ∉ s.blocked) s.bank b ∧
      st = { s with bank := b }) _ l ?_ s s' ⟨s.bank, .refl _, rfl⟩ h
  rintro st pw st2 hpw ⟨b, hb, e⟩ hc
  subst e
  obtain ⟨b2, hs, e⟩ := payProver_spec hc
  exact ⟨b2, hb.trans (hs.mono (fun _ ha => ha)
    (by rintro a ⟨rfl, hne, hnb⟩; exact ⟨List.mem_map_of_mem hpw, hne, hnb⟩)), e⟩

theorem manageRewards_eq (s : State) (h now : Int) :
    manageRewards s h now =
      (pullGauges (filePass h s.files s []).1 now).bind fun r =>
        (sortedProvers (filePass h s.files s []).2).foldlM
          (fun st pw => payProver st (blockTotal s.files) r.2 pw.1 pw.2) r.1 := rfl

theorem manageRewards_spec {s s' : State} {h now : Int} (hs : manageRewards s h now = .ok s') :
    ∃ s2 coins, pullGauges (filePass h s.files s []).1 now = .ok (s2, coins) ∧
      (sortedProvers (filePass h s.files s []).2).foldlM
        (fun st pw => payProver st (blockTotal s.files) coins pw.1 pw.2) s2 = .ok s' := by
  rw [manageRewards_eq] at hs
  cases hg : pullGauges (filePass h s.files s []).1 now with
  | error e => rw [hg] at hs; cases hs
  | ok r => rw [hg] at hs; exact ⟨r.1, r.2, rfl, hs⟩

/-- with a check window the begin-blocker cannot divide by zero: it does nothing off the reward heights and
is `manageRewards` on them -/
theorem beginBlock_of_window {s : State} (h now : Int) (hcw : s.params.checkWindow ≠ 0) :
    beginBlock s h now = if Int.tmod h s.params.checkWindow > 0 then .ok s else manageRewards s h now := by
  rw [beginBlock, if_neg hcw]

/-- a successful `beginBlock` had a non-zero check window (with a zero one the Go divides by zero and
`beginBlock` is an error); the rest is `beginBlock_of_window` -/
theorem beginBlock_spec {s s' : State} {h now : Int} (hb : beginBlock s h now = .ok s') :
    s.params.checkWindow ≠ 0 ∧
    ((Int.tmod h s.params.checkWindow > 0 ∧ s' = s) ∨
     (¬ Int.tmod h s.params.checkWindow > 0 ∧ manageRewards s h now = .ok s')) := by
  by_cases hcw : s.params.checkWindow = 0
  · rw [beginBlock, if_pos hcw] at hb; cases hb
  refine ⟨hcw, ?_⟩
  rw [beginBlock_of_window h now hcw] at hb
  split at hb
  · rename_i hpos; cases hb; exact Or.inl ⟨hpos, rfl⟩
  · rename_i hpos; exact Or.inr ⟨hpos, hb⟩

/-- a successful begin-blocker does nothing, or is the file pass followed by writes to the ledger and
the gauge store only -/
theorem beginBlock_stores {s s' : State} {h now : Int} (hb : beginBlock s h now = .ok s') :
    s' = s ∨ ∃ b gs, s' = { (filePass h s.files s []).1 with bank := b, gauges := gs } :=
  (beginBlock_spec hb).2.imp (·.2) fun hm => by
    obtain ⟨s2, coins, hg, hp⟩ := manageRewards_spec hm.2
    obtain ⟨b, gs, rfl, -, -⟩ := pullGauges_spec hg
    obtain ⟨b', -, rfl⟩ := payLoop_spec hp
    exact ⟨b', gs, rfl⟩

/-- **Induction over the writes of `manageFile`.**  A property of states holds afterwards when it
survives each of the three things `manageFile` does to a state: removing the file, dropping a prover
from the file it carries along (`Q` holds of that file throughout), counting a missed proof against
a provider. -/
theorem manageFile_ind (P : State → Prop) (Q : File → Prop)
    (hRF : ∀ s f, Q f → P s → P (removeFile s f.key))
    (hDP : ∀ s f pk, Q f → P s → P (dropProver s f pk).1 ∧ Q (dropProver s f pk).2)
    (hBurn : ∀ s a, P s → P (burnContract s a))
    (h : Int) (c : State) (t : Tracker) (f : File) (hq : Q f) (hc : P c) : P (manageFile c h t f).1 := by
  have proof1 : ∀ (acc : State × Tracker × File) (pk : PKey), P acc.1 ∧ Q acc.2.2 →
      P (manageProof acc.1 h acc.2.1 acc.2.2 pk).1 ∧ Q (manageProof acc.1 h acc.2.1 acc.2.2 pk).2.2 := by
    rintro ⟨c, t, f⟩ pk ⟨hc, hq⟩
    have hrp : P (removeProver c f pk).1 ∧ Q (removeProver c f pk).2 := by
      rw [removeProver_eq]; split
      · exact hDP c f pk hq hc
      · exact ⟨hc, hq⟩
    rw [manageProof_eq]
    split
    · exact ⟨hc, hq⟩
    · refine ⟨?_, hrp.2⟩
      dsimp only; split
      · exact hBurn _ _ hrp.1
      · exact hrp.1
  have h1 : P (if (f.proofs.isEmpty && !isYoung h f.start f.proofInterval) = true then removeFile c f.key else c) := by
    split
    · exact hRF _ _ hq hc
    · exact hc
  rw [manageFile_eq]
  -- the start of the fold is written out: found by unification, it costs an unfolding of the whole loop
  exact (foldl_inv (fun acc : State × Tracker × File => P acc.1 ∧ Q acc.2.2) _ proof1 f.proofs
    (_, t, f) ⟨h1, hq⟩).1

/-- `manageFile_ind` along the file pass; `Q` has to hold of every file ranged over -/
theorem filePass_frame_ind (P : State → Prop) (Q : File → Prop)
    (hRF : ∀ s f, Q f → P s → P (removeFile s f.key))
    (hDP : ∀ s f pk, Q f → P s → P (dropProver s f pk).1 ∧ Q (dropProver s f pk).2)
    (hBurn : ∀ s a, P s → P (burnContract s a))
    (h : Int) (fs : List (FKey × File)) (hQ : ∀ kv ∈ fs, Q kv.2) (c : State) (t : Tracker) (hc : P c) :
    P (filePass h fs c t).1 :=
  foldl_inv_mem (fun acc : State × Tracker => P acc.1) _ fs
    (fun acc kv hkv hacc => manageFile_ind P Q hRF hDP hBurn h acc.1 acc.2 kv.2 (hQ kv hkv) hacc) (c, t) hc

/-- **Induction over the writes of the reward block**: those of the file pass, replacing the ledger
and closing a gauge. -/
theorem beginBlock_ind (P : State → Prop) (Q : File → Prop)
    (hRF : ∀ s f, Q f → P s → P (removeFile s f.key))
    (hDP : ∀ s f pk, Q f → P s → P (dropProver s f pk).1 ∧ Q (dropProver s f pk).2)
    (hBurn : ∀ s a, P s → P (burnContract s a))
    (hBank : ∀ s b, P s → P { s with bank := b })
    (hG : ∀ s id, P s → P { s with gauges := AMap.erase s.gauges id })
    {s s' : State} {h now : Int} (hQ : ∀ kv ∈ s.files, Q kv.2)
    (hb : beginBlock s h now = .ok s') (hs : P s) : P s' := by
  obtain ⟨-, ⟨-, rfl⟩ | ⟨-, hm⟩⟩ := beginBlock_spec hb
  · exact hs
  obtain ⟨s2, coins, hg, hpay⟩ := manageRewards_spec hm
  have h1 := filePass_frame_ind P Q hRF hDP hBurn h s.files hQ s [] hs
  generalize (filePass h s.files s []).1 = s1 at hg h1
  have h2 : P s2 := by
    refine foldlM_except_inv (fun acc : State × Coins => P acc.1) _ ?_ s1.gauges (s1, []) (s2, coins) h1 hg
    rintro ⟨c, r⟩ kv ⟨c', r'⟩ hc hf
    rcases pullGauge_spec hf with ⟨e, -⟩ | ⟨b, -, e⟩
    · rw [e]; exact hG _ _ hc
    · rw [e]; exact hBank _ _ hc
  refine foldlM_except_inv P _ ?_ _ s2 s' h2 hpay
  intro c pw c' hc hf
  obtain ⟨b, -, rfl⟩ := payProver_spec hf
  exact hBank _ _ hc

theorem manageFile_files_other (s : State) (h : Int) (t : Tracker) (file : File) {k : FKey}
    (hk : k ≠ file.key) : AMap.get (manageFile s h t file).1.files k = AMap.get s.files k :=
  manageFile_ind (fun c => AMap.get c.files k = AMap.get s.files k) (fun f => f.key = file.key)
    (hRF := fun c f hf hc => by rw [removeFile_files_get, hf, if_neg (Ne.symm hk)]; exact hc)
    (hDP := fun c f pk hf hc => ⟨(AMap.get_set_ne (fun e => hk (e.trans hf))).trans hc, hf⟩)
    (hBurn := fun c a hc => by rw [burnContract_writes]; exact hc) h s t file rfl rfl

/-- **The file pass over a duplicate-free store** whose files are stored under their own keys: when
the pass reaches a file, that file is still stored exactly as it was read, so a property only has to
be preserved by `manageFile` on stored files. -/
theorem filePass_stored_ind (P : State × Tracker → Prop) {s : State} (h : Int) (hwf : AMap.WF s.files)
    (hkey : ∀ kv ∈ s.files, kv.2.key = kv.1)
    (hstep : ∀ a kv, kv ∈ s.files → AMap.get a.1.files kv.1 = some kv.2 → P a → P (manageFile a.1 h a.2 kv.2))
    (h0 : P (s, [])) : P (filePass h s.files s []) := by
  have main : ∀ (l : List (FKey × File)) (a : State × Tracker),
      (∀ kv ∈ l, kv ∈ s.files) → (AMap.keys l).Nodup →
      (∀ kv ∈ l, AMap.get a.1.files kv.1 = some kv.2) → P a → P (filePass h l a.1 a.2) := by
    intro l
    induction l with
    | nil => intro a _ _ _ hp; exact hp
    | cons kv l ih =>
      intro a hsub hnd hpend hp
      have hkv : kv ∈ s.files := hsub kv List.mem_cons_self
      simp only [AMap.keys, List.map_cons, List.nodup_cons] at hnd
      rw [filePass_cons]
      refine ih (manageFile a.1 h a.2 kv.2) (fun x hx => hsub x (List.mem_cons_of_mem _ hx)) hnd.2 ?_
        (hstep a kv hkv (hpend kv List.mem_cons_self) hp)
      intro x hx
      rw [manageFile_files_other _ _ _ _ (hkey kv hkv ▸ fun e => hnd.1 (e ▸ List.mem_map_of_mem hx))]
      exact hpend x (List.mem_cons_of_mem _ hx)
  exact main s.files (s, []) (fun _ h => h) hwf (fun kv hkv => AMap.get_of_mem_wf hwf hkv) h0

end Canine.Storage
