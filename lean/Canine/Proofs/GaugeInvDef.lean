/-
Gauge invariant for C05: the state invariant `GaugeInv`, that it implies the hypothesis
`GaugesSafe` of `C05_beginBlock_never_panics`, that it is monotone in time, and the frame lemma:
a step that keeps the gauge store and only moves coins out of accounts that are no gauge's escrow
account keeps the invariant.
-/
import Canine.Proofs.NoPanic
import Canine.Proofs.GaugeInvArith
import Canine.Proofs.GaugeInvBank
import Canine.Proofs.Collateral
namespace Canine.Storage
open Bank GI

/-- how the chain derives the escrow account of a gauge from its id (`GetGaugeAccount`, a hash of
the id).  `inj` is assumed: collision-freeness of that hash -/
structure EscrowScheme where
  accOf : String → String
  inj : ∀ a b, accOf a = accOf b → a = b

/-- the coins a gauge records: nothing, or one non-negative amount of ujkl (both gauge-creating
messages deposit `sdk.NewCoins(sdk.NewCoin("ujkl", x))`) -/
def CoinsOk (cs : Coins) : Prop := cs = [] ∨ ∃ x, 0 ≤ x ∧ cs = [("ujkl", x)]

/-- one gauge against ledger `b` at time `t`: it has started, start and end fall in different
microseconds (`Live.long`), it records well-formed coins, and — while it has not ended — what has
left its escrow account, `A − bal`, is at most `ratio(t)·A` in the exact `sdk.Dec` arithmetic of
`pullGauge` -/
structure GaugeOk (b : Bank) (t : Int) (g : Gauge) : Prop where
  started : g.startT ≤ t
  long : g.startT + 1999 ≤ g.endT
  coins : CoinsOk g.coins
  sched : t ≤ g.endT → ∀ c ∈ g.coins,
    (Dec.ofInt (c.2 - bal b g.account c.1)).raw ≤ (would g.startT g.endT t c.2).raw

/-- the gauge invariant; `t` is the time of the last block or message -/
structure GaugeInv (E : EscrowScheme) (s : State) (t : Int) : Prop where
  wf : AMap.WF s.gauges
  ids : ∀ kv ∈ s.gauges, kv.2.id = kv.1 ∧ kv.2.account = E.accOf kv.1
  accNe : ∀ kv ∈ s.gauges, kv.2.account ≠ s.moduleAcc ∧ kv.2.account ≠ s.collateralAcc
  ok : ∀ kv ∈ s.gauges, GaugeOk s.bank t kv.2
  bank : BankOk s.bank

/-- the per-coin equality at instant `t'`: what has left escrow is the truncated schedule value -/
def ExactAt (b : Bank) (t' : Int) (g : Gauge) : Prop :=
  ∀ c ∈ g.coins, c.2 - bal b g.account c.1 = Dec.trunc (would g.startT g.endT t' c.2)

theorem CoinsOk.nonneg {cs : Coins} (h : CoinsOk cs) : ∀ c ∈ cs, 0 ≤ c.2 := by
  intro c hc
  rcases h with e | ⟨x, hx, e⟩
  · subst e; simp at hc
  · subst e; simp only [List.mem_singleton] at hc; subst hc; exact hx

theorem CoinsOk.unique {cs : Coins} (h : CoinsOk cs) {c c' : Coin} (hc : c ∈ cs) (hc' : c' ∈ cs) : c = c' := by
  rcases h with rfl | ⟨x, _, rfl⟩
  · cases hc
  · exact (List.mem_singleton.mp hc).trans (List.mem_singleton.mp hc').symm

theorem CoinsOk.nodup {cs : Coins} (h : CoinsOk cs) : (cs.map (·.1)).Nodup := by
  rcases h with rfl | ⟨x, _, rfl⟩ <;> simp

theorem CoinsOk.mem {cs : Coins} (h : CoinsOk cs) {c : Coin} (hc : c ∈ cs) : c.1 = "ujkl" ∧ c.2 = amt "ujkl" cs := by
  rcases h with e | ⟨x, _, e⟩
  · subst e; simp at hc
  · subst e; simp only [List.mem_singleton] at hc; subst hc; simp [amt]

theorem CoinsOk.amt_nonneg {cs : Coins} (h : CoinsOk cs) : 0 ≤ amt "ujkl" cs := by
  rcases h with e | ⟨x, hx, e⟩
  · subst e; simp [amt]
  · subst e; simp [amt]; exact hx

theorem GaugeOk.live {b : Bank} {t : Int} {g : Gauge} (h : GaugeOk b t g) (ht : t ≤ g.endT) :
    Live g.startT g.endT t := ⟨h.started, ht, h.long⟩

/-- `sched` in whole base units -/
theorem GaugeOk.released_le {b : Bank} {t : Int} {g : Gauge} (h : GaugeOk b t g) (ht : t ≤ g.endT)
    {c : Coin} (hc : c ∈ g.coins) :
    c.2 - bal b g.account c.1 ≤ Dec.trunc (would g.startT g.endT t c.2) :=
  (ofInt_le_iff (would_range (h.live ht) (h.coins.nonneg c hc)).1 _).mp (h.sched ht c hc)

theorem GaugeOk.released_at_start {b : Bank} {g : Gauge} (h : GaugeOk b g.startT g) {c : Coin}
    (hc : c ∈ g.coins) : c.2 - bal b g.account c.1 ≤ 0 := by
  have := h.released_le (by have := h.long; omega) hc
  rwa [trunc_of_raw_zero (would_start h.long)] at this

theorem GaugeOk.at_start {b : Bank} {g : Gauge} (h : GaugeOk b g.startT g) (hb : BankOk b) :
    amt "ujkl" g.coins ≤ bal b g.account "ujkl" := by
  rcases h.coins with e | ⟨A, _, e⟩
  · rw [e]; exact hb.bal_nonneg _ _
  · have hs := h.released_at_start (c := ("ujkl", A)) (by rw [e]; exact List.mem_singleton_self _)
    rw [e, amt_single]
    exact Int.le_of_sub_nonpos hs

/-- how a gauge-creating message establishes `GaugeOk`: the whole record is in escrow -/
theorem GaugeOk.of_start {b : Bank} {g : Gauge} (hl : g.startT + 1999 ≤ g.endT) (hc : CoinsOk g.coins)
    (hb : amt "ujkl" g.coins ≤ bal b g.account "ujkl") : GaugeOk b g.startT g := by
  refine ⟨Int.le_refl _, hl, hc, fun _ c hcm => (ofInt_le_iff (Int.le_of_eq (would_start hl).symm) _).mpr ?_⟩
  obtain ⟨e1, e2⟩ := hc.mem hcm
  rw [trunc_of_raw_zero (would_start hl), e1, e2]
  exact Int.sub_nonpos_of_le hb

theorem GaugeOk.of_exact {b b' : Bank} {t : Int} {g : Gauge} (h : GaugeOk b t g) (hx : ExactAt b' t g) :
    GaugeOk b' t g :=
  ⟨h.started, h.long, h.coins, fun ht c hc =>
    (ofInt_le_iff (would_range (h.live ht) (h.coins.nonneg c hc)).1 _).mpr (Int.le_of_eq (hx c hc))⟩

theorem GaugeOk.of_bal_ge {b b' : Bank} {t : Int} {g : Gauge} (h : GaugeOk b t g)
    (hb : ∀ d, bal b g.account d ≤ bal b' g.account d) : GaugeOk b' t g :=
  ⟨h.started, h.long, h.coins, fun ht c hc =>
    Int.le_trans (Int.mul_le_mul_of_nonneg_right (Int.sub_le_sub_left (hb c.1) c.2) (Int.le_of_lt precision_pos))
      (h.sched ht c hc)⟩

theorem GaugeOk.advance {b : Bank} {t t' : Int} {g : Gauge} (h : GaugeOk b t g) (htt : t ≤ t') :
    GaugeOk b t' g :=
  ⟨Int.le_trans h.started htt, h.long, h.coins, fun ht c hc =>
    Int.le_trans (h.sched (by omega) c hc)
      (would_mono (h.live (by omega)) ⟨Int.le_trans h.started htt, ht, h.long⟩ htt (h.coins.nonneg c hc))⟩

theorem GaugeInv.advance {E : EscrowScheme} {s : State} {t t' : Int} (h : GaugeInv E s t) (htt : t ≤ t') :
    GaugeInv E s t' :=
  ⟨h.wf, h.ids, h.accNe, fun kv hkv => (h.ok kv hkv).advance htt, h.bank⟩

/-- the int64 bound: release ≤ bal ≤ `I64.maxV` -/
theorem gaugeSafe_of_released_le {b : Bank} {t : Int} {g : Gauge} (hs : g.startT ≤ t)
    (hlong : g.startT + 1999 ≤ g.endT)
    (hc : ∀ c ∈ g.coins, 0 ≤ c.2 ∧ bal b g.account c.1 ≤ I64.maxV ∧
      (t ≤ g.endT → c.2 - bal b g.account c.1 ≤ Dec.trunc (would g.startT g.endT t c.2))) :
    GaugeSafe b t g := by
  intro _ hend _
  have hl : Live g.startT g.endT t := ⟨hs, hend, hlong⟩
  obtain ⟨q, hq, hr⟩ := quo_ratioAt g.startT g.endT t (by have := hl.us.2.2; omega)
  refine ⟨q, hq, fun c hcm => ?_⟩
  obtain ⟨hA, hb, hle⟩ := hc c hcm
  obtain ⟨a0, a1, _⟩ := gaugeAmt_on_schedule hl hA (hle hend)
  rw [hr]
  refine ⟨a0, ?_⟩
  unfold I64.inRange I64.minV
  unfold I64.maxV at *
  simp only [Bool.and_eq_true, decide_eq_true_eq]
  omega

theorem GaugeOk.safe {b : Bank} {t : Int} {g : Gauge} (h : GaugeOk b t g) (hb : BankOk b) : GaugeSafe b t g :=
  gaugeSafe_of_released_le h.started h.long
    (fun c hc => ⟨h.coins.nonneg c hc, hb.bal_le _ _, fun ht => h.released_le ht hc⟩)

theorem GaugeInv.same_acc {E : EscrowScheme} {s : State} {t : Int} (h : GaugeInv E s t)
    {p q : String × Gauge} (hp : p ∈ s.gauges) (hq : q ∈ s.gauges) (ha : p.2.account = q.2.account) : p = q := by
  apply AMap.wf_unique h.wf hp hq
  apply E.inj
  rw [← (h.ids p hp).2, ← (h.ids q hq).2, ha]

/-- the invariant implies the gauge hypothesis of `C05_beginBlock_never_panics` -/
theorem GaugeInv.gaugesSafe {E : EscrowScheme} {s : State} {t : Int} (h : GaugeInv E s t) : GaugesSafe s t := by
  refine ⟨fun kv hkv => (h.ok kv hkv).safe h.bank, fun kv hkv => (h.accNe kv hkv).1, ?_,
    fun kv hkv => (h.ok kv hkv).coins.nodup⟩
  -- the keys are pairwise distinct, and equal escrow accounts mean equal keys
  have hk : s.gauges.Pairwise (fun p q => p.1 ≠ q.1) := List.Pairwise.of_map (·.1) (fun _ _ hne => hne) h.wf
  exact hk.imp_of_mem fun hp hq hne ha => hne (congrArg Prod.fst (h.same_acc hp hq ha))

/-- the invariant holds where there are no gauges (genesis), on a ledger that is in order -/
theorem GaugeInv.init (E : EscrowScheme) (s : State) (t : Int) (hg : s.gauges = []) (hb : BankOk s.bank) :
    GaugeInv E s t := by
  refine ⟨by rw [hg]; exact AMap.wf_nil, ?_, ?_, ?_, hb⟩ <;>
  · intro kv hkv; rw [hg] at hkv; simp at hkv

/-- A step that keeps the gauge store and the two module accounts, and moves
coins only out of accounts that are no gauge's escrow account, keeps the invariant. -/
theorem GaugeInv.frame {E : EscrowScheme} {s s' : State} {t : Int} {P : String → Prop} (h : GaugeInv E s t)
    (hg : s'.gauges = s.gauges) (hm : s'.moduleAcc = s.moduleAcc) (hc : s'.collateralAcc = s.collateralAcc)
    (hb : Moves P s.bank s'.bank) (hP : ∀ kv ∈ s.gauges, ¬ P kv.2.account) : GaugeInv E s' t := by
  refine ⟨by rw [hg]; exact h.wf, by rw [hg]; exact h.ids, by rw [hg, hm, hc]; exact h.accNe, ?_, h.bank.moves hb⟩
  rw [hg]
  intro kv hkv
  exact (h.ok kv hkv).of_bal_ge (fun d => hb.bal_ge _ (hP kv hkv) d)

def SameCore (s s' : State) : Prop :=
  s'.bank = s.bank ∧ s'.gauges = s.gauges ∧ s'.moduleAcc = s.moduleAcc ∧ s'.collateralAcc = s.collateralAcc

theorem SameMoney.core {s s' : State} (h : SameMoney s s') : SameCore s s' :=
  ⟨h.bank, h.gauges, h.macc, h.cacc⟩

theorem GaugeInv.sameCore {E : EscrowScheme} {s s' : State} {t : Int} (h : GaugeInv E s t) (hc : SameCore s s') :
    GaugeInv E s' t :=
  h.frame (P := fun _ => False) hc.2.1 hc.2.2.1 hc.2.2.2 (Moves.of_eq hc.1) (fun _ _ hf => hf)

theorem GaugeInv.erase {E : EscrowScheme} {s : State} {t : Int} (h : GaugeInv E s t) (k : String) :
    GaugeInv E { s with gauges := AMap.erase s.gauges k } t :=
  ⟨AMap.wf_erase k h.wf, fun kv hkv => h.ids kv (AMap.mem_erase hkv),
   fun kv hkv => h.accNe kv (AMap.mem_erase hkv),
   fun kv hkv => h.ok kv (AMap.mem_erase hkv), h.bank⟩

end Canine.Storage
