/-
Gauge exactness for C12: the strengthened invariant `GaugeExact`.

`GaugeInv` (Proofs/GaugeInvDef.lean) bounds what has left a gauge's escrow account from above:
`(A − bal)·10^18 ≤ would(t).raw`.  The inequality is all one can say when third parties may credit an
escrow account.  `GaugeExact` adds the equality that holds when nobody does: for every stored gauge
there is an instant `t'` with `startT ≤ t' ≤ t`, `t' ≤ endT` — the time of the last reward block that
visited the gauge, or its start time if none did — such that, per recorded coin,

    A − bal(escrow, denom) = Dec.trunc (would startT endT t' A)     (= ⌊ratio(t')·A⌋),

and a gauge that records no coin (a zero deposit) has an empty ujkl balance.  (The second clause is
what makes the equality survive a later same-block deposit into such a gauge.)  The per-coin
equality `ExactAt` is in Proofs/GaugeInvDef.lean.
-/
import Canine.Proofs.GaugeInvMsg
namespace Canine.Storage
open Bank GI

theorem trunc_would_mono {startT endT t1 t2 A : Int} (h1 : Live startT endT t1) (h2 : Live startT endT t2)
    (hle : t1 ≤ t2) (hA : 0 ≤ A) :
    Dec.trunc (would startT endT t1 A) ≤ Dec.trunc (would startT endT t2 A) :=
  trunc_mono (would_range h1 hA).1 (would_mono h1 h2 hle hA)

theorem trunc_would_nonneg {startT endT t A : Int} (h : Live startT endT t) (hA : 0 ≤ A) :
    0 ≤ Dec.trunc (would startT endT t A) :=
  zero_le_trunc (would_range h hA).1

theorem trunc_would_le {startT endT t A : Int} (h : Live startT endT t) (hA : 0 ≤ A) :
    Dec.trunc (would startT endT t A) ≤ A :=
  trunc_le (would_range h hA).1 (would_range h hA).2

theorem trunc_would_start {startT endT A : Int} (h : startT + 1999 ≤ endT) :
    Dec.trunc (would startT endT startT A) = 0 :=
  trunc_of_raw_zero (would_start h)

/-- one gauge against ledger `b` at time `t`: exact at some earlier instant of its life, and an empty
record goes with an empty ujkl balance -/
structure GaugeExactOk (b : Bank) (t : Int) (g : Gauge) : Prop where
  empty : g.coins = [] → bal b g.account "ujkl" = 0
  at_ : ∃ t', g.startT ≤ t' ∧ t' ≤ t ∧ t' ≤ g.endT ∧ ExactAt b t' g

structure GaugeExact (E : EscrowScheme) (s : State) (t : Int) : Prop where
  inv : GaugeInv E s t
  exact : ∀ kv ∈ s.gauges, GaugeExactOk s.bank t kv.2

theorem GaugeExactOk.advance {b : Bank} {t t2 : Int} {g : Gauge} (h : GaugeExactOk b t g) (htt : t ≤ t2) :
    GaugeExactOk b t2 g := by
  obtain ⟨t', h1, h2, h3, h4⟩ := h.at_
  exact ⟨h.empty, t', h1, Int.le_trans h2 htt, h3, h4⟩

theorem GaugeExact.advance {E : EscrowScheme} {s : State} {t t2 : Int} (h : GaugeExact E s t) (htt : t ≤ t2) :
    GaugeExact E s t2 :=
  ⟨h.inv.advance htt, fun kv hkv => (h.exact kv hkv).advance htt⟩

theorem GaugeExactOk.of_bal_eq {b b' : Bank} {t : Int} {g : Gauge} (h : GaugeExactOk b t g)
    (hb : ∀ d, bal b' g.account d = bal b g.account d) : GaugeExactOk b' t g := by
  obtain ⟨t', h1, h2, h3, h4⟩ := h.at_
  refine ⟨fun e => by rw [hb]; exact h.empty e, t', h1, h2, h3, fun c hc => ?_⟩
  rw [hb]; exact h4 c hc

theorem GaugeExact.init (E : EscrowScheme) (s : State) (t : Int) (hg : s.gauges = []) (hb : BankOk s.bank) :
    GaugeExact E s t :=
  ⟨GaugeInv.init E s t hg hb, fun kv hkv => by rw [hg] at hkv; simp at hkv⟩

theorem GaugeExactOk.at_start {b : Bank} {g : Gauge} (h : GaugeExactOk b g.startT g) (hl : g.startT + 1999 ≤ g.endT)
    (hc : CoinsOk g.coins) : bal b g.account "ujkl" = amt "ujkl" g.coins := by
  rcases hc with e | ⟨A, _, e⟩
  · rw [e]; simp only [amt]; exact h.empty e
  · obtain ⟨t', h1, h2, _, h4⟩ := h.at_
    have : t' = g.startT := by omega
    subst this
    have := h4 ("ujkl", A) (by rw [e]; simp)
    rw [trunc_would_start hl] at this
    simp only at this
    rw [e]; simp only [amt, if_true]; omega

/-- what a step does to the stored gauges, as far as exactness is concerned: every gauge stored
afterwards either was stored before with the same escrow balances, or starts now and holds in escrow
exactly what it records -/
def StepFx (s s' : State) (now : Int) : Prop :=
  ∀ kv ∈ s'.gauges,
    (kv ∈ s.gauges ∧ ∀ d, bal s'.bank kv.2.account d = bal s.bank kv.2.account d) ∨
    (kv.2.startT = now ∧ now + 1999 ≤ kv.2.endT ∧
      (∀ c ∈ kv.2.coins, c.2 - bal s'.bank kv.2.account c.1 = 0) ∧
      (kv.2.coins = [] → bal s'.bank kv.2.account "ujkl" = 0))

theorem StepFx.exact {s s' : State} {now : Int} (h : StepFx s s' now)
    (hex : ∀ kv ∈ s.gauges, GaugeExactOk s.bank now kv.2) :
    ∀ kv ∈ s'.gauges, GaugeExactOk s'.bank now kv.2 := by
  intro kv hkv
  rcases h kv hkv with ⟨hm, hb⟩ | ⟨h1, h2, h3, h4⟩
  · exact (hex kv hm).of_bal_eq hb
  · refine ⟨h4, now, by omega, Int.le_refl _, by omega, fun c hc => ?_⟩
    rw [h3 c hc, ← h1, trunc_would_start (by omega)]

theorem StepFx.of_same {s s' : State} {now : Int} (hg : s'.gauges = s.gauges)
    (hb : ∀ kv ∈ s.gauges, ∀ d, bal s'.bank kv.2.account d = bal s.bank kv.2.account d) : StepFx s s' now := by
  intro kv hkv
  rw [hg] at hkv
  exact Or.inl ⟨hkv, hb kv hkv⟩

theorem StepFx.of_sameCore {s s' : State} {now : Int} (h : SameCore s s') : StepFx s s' now :=
  StepFx.of_same h.2.1 (fun _ _ d => by rw [h.1])

theorem StepFx.refl (s : State) (now : Int) : StepFx s s now := StepFx.of_same rfl (fun _ _ _ => rfl)

theorem StepFx.of_transfer {s s' : State} {now : Int} {src dst : String} (h : Transfer s s' src dst)
    (hsrc : ∀ kv ∈ s.gauges, src ≠ kv.2.account) (hdst : ∀ kv ∈ s.gauges, dst ≠ kv.2.account) : StepFx s s' now := by
  obtain ⟨⟨cs, hs⟩, hg, -, -⟩ := h
  exact StepFx.of_same hg fun kv hkv d => bal_send_other hs (hsrc kv hkv) (hdst kv hkv) d

end Canine.Storage
