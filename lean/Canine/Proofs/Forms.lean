/-
The two form stores: the relation "same forms" for the code paths that write neither; what signing
does to a form; the form a request opens (`freshForm`, `requestForm_forall`); the three things a
signature message can do to its store (`FormsStep`); and `forms_step`, by which a property of all
open forms survives a delivered message.
-/
import Canine.Proofs.Index
namespace Canine.Storage

structure SameForms (s s' : State) : Prop where
  attests : s'.attests = s.attests
  reports : s'.reports = s.reports
  params : s'.params = s.params

theorem SameForms.refl (s : State) : SameForms s s := ⟨rfl, rfl, rfl⟩
theorem SameForms.trans {a b c : State} (h1 : SameForms a b) (h2 : SameForms b c) : SameForms a c :=
  ⟨h2.1.trans h1.1, h2.2.trans h1.2, h2.3.trans h1.3⟩
theorem SameIdx.forms {s s' : State} (h : SameIdx s s') : SameForms s s' := ⟨h.attests, h.reports, h.params⟩

theorem sameForms_removeFile (s : State) (k : FKey) : SameForms s (removeFile s k) := by
  rw [removeFile_writes]; exact ⟨rfl, rfl, rfl⟩

theorem sameForms_removeProver (s : State) (f : File) (pk : PKey) : SameForms s (removeProver s f pk).1 := by
  rw [removeProver_eq]; split <;> exact ⟨rfl, rfl, rfl⟩

theorem sameForms_postFile {s s' : State} {h now : Int} {c m : String} {fs mp ex pt : Int} {note : String}
    {nv : Bool} {jp : Dec} {gid gacc : String}
    (hs : postFile s h now c m fs mp ex pt note nv jp gid gacc = some s') : SameForms s s' := by
  obtain ⟨_, _, _, rfl⟩ := postFile_writes hs
  exact (sameForms_removeFile s (m, c, h)).trans ⟨rfl, rfl, rfl⟩

theorem sameForms_postProof (s : State) (h : Int) (c m o : String) (st tp : Int) (v : Bool) (nc : Int) :
    SameForms s (postProof s h c m o st tp v nc).state := by
  rcases postProof_outcome s h c m o st tp v nc with
    e | ⟨_, _, -, -, -, -, -, e⟩ | ⟨_, -, -, -, -, -, e⟩ <;> rw [e] <;> exact ⟨rfl, rfl, rfl⟩

theorem sameForms_beginBlock {s s' : State} {h now : Int}
    (hs : beginBlock s h now = .ok s') : SameForms s s' :=
  beginBlock_ind (SameForms s) (fun _ => True)
    (hRF := fun c f _ hc => hc.trans (sameForms_removeFile c f.key))
    (hDP := fun _ _ _ _ hc => ⟨hc.trans ⟨rfl, rfl, rfl⟩, trivial⟩)
    (hBurn := fun c a hc => hc.trans (sameIdx_burnContract c a).forms)
    (hBank := fun _ _ hc => hc.trans ⟨rfl, rfl, rfl⟩) (hG := fun _ _ hc => hc.trans ⟨rfl, rfl, rfl⟩)
    (fun _ _ => trivial) hs (.refl s)

theorem any_named (atts : List (String × Bool)) (c : String) :
    atts.any (fun p => p.1 = c) = true ↔ ∃ p ∈ atts, p.1 = c := by
  simp only [List.any_eq_true, decide_eq_true_eq]

theorem signed_length (atts : List (String × Bool)) (c : String) :
    (signed atts c).length = atts.length := by simp [signed]

theorem signed_names (atts : List (String × Bool)) (c : String) :
    (signed atts c).map (·.1) = atts.map (·.1) := by
  simp only [signed, List.map_map]
  apply List.map_congr_left
  intro p _
  simp only [Function.comp]
  split <;> rfl

theorem signed_getElem (atts : List (String × Bool)) (c : String) (i : Nat) (hi : i < (signed atts c).length) :
    (signed atts c)[i] =
      if (atts[i]'(by rw [signed_length] at hi; exact hi)).1 = c
      then ((atts[i]'(by rw [signed_length] at hi; exact hi)).1, true)
      else atts[i]'(by rw [signed_length] at hi; exact hi) := by
  simp only [signed, List.getElem_map]

theorem signed_signed (atts : List (String × Bool)) (c : String) :
    signed (signed atts c) c = signed atts c := by
  simp only [signed, List.map_map]
  apply List.map_congr_left
  intro p _
  simp only [Function.comp]
  by_cases h : p.1 = c <;> simp [h]

theorem any_signed (atts : List (String × Bool)) (c c' : String) :
    (signed atts c).any (fun p => p.1 = c') = atts.any (fun p => p.1 = c') := by
  have := signed_names atts c
  have e : ∀ l : List (String × Bool), l.any (fun p => p.1 = c') = (l.map (·.1)).any (fun a => a = c') := by
    intro l; simp [List.any_map, Function.comp_def]
  rw [e, e, this]

theorem mem_signed_true {atts : List (String × Bool)} {c a : String}
    (h : (a, true) ∈ signed atts c) : (a, true) ∈ atts ∨ a = c := by
  simp only [signed, List.mem_map] at h
  obtain ⟨p, hp, e⟩ := h
  by_cases hc : p.1 = c
  · rw [if_pos hc] at e
    right; rw [← hc]; exact (congrArg Prod.fst e).symm
  · rw [if_neg hc] at e
    left; rw [← e]; exact hp

def completeNames (atts : List (String × Bool)) : List String := (atts.filter (·.2)).map (·.1)

theorem completeNames_length (atts : List (String × Bool)) :
    ((completeNames atts).length : Int) = completeCount atts := by
  simp [completeNames, completeCount]

theorem completeNames_nodup {atts : List (String × Bool)} (h : (atts.map (·.1)).Nodup) :
    (completeNames atts).Nodup :=
  h.sublist (List.Sublist.map _ List.filter_sublist)

theorem mem_completeNames {atts : List (String × Bool)} {a : String} :
    a ∈ completeNames atts ↔ (a, true) ∈ atts := by
  simp only [completeNames, List.mem_map, List.mem_filter]
  constructor
  · rintro ⟨⟨x, b⟩, ⟨hm, hb⟩, rfl⟩
    simp only at hb; subst hb; exact hm
  · intro h; exact ⟨(a, true), ⟨h, rfl⟩, rfl⟩

theorem unsigned_names (chosen : List String) :
    (chosen.map (fun a => (a, false))).map (·.1) = chosen := by
  simp [List.map_map, Function.comp_def]

theorem unsigned_incomplete (chosen : List String) :
    ∀ p ∈ chosen.map (fun a => (a, false)), p.2 = false := fun p hp => by
  obtain ⟨a, _, rfl⟩ := List.mem_map.mp hp; rfl

def freshForm (prover m o : String) (st : Int) (chosen : List String) : Form :=
  { prover := prover, merkle := m, owner := o, start := st, attestations := chosen.map (fun a => (a, false)) }

theorem requestForm_forall {forms forms' : AMap PKey Form} {s : State} {prover m o : String}
    {st ec : Int} {ch : List String} (hreq : requestForm forms s prover m o st ec ch = some forms')
    {P : PKey → Form → Prop}
    (hnew : ∀ f, AMap.get s.files (m, o, st) = some f → P (prover, f.key) (freshForm prover m o st ch))
    (h : ∀ k f, AMap.get forms k = some f → P k f) : ∀ k f, AMap.get forms' k = some f → P k f := by
  obtain ⟨f, hf, -, -, -, -, -, e⟩ := requestForm_spec hreq
  rw [e]
  exact AMap.forall_set h (hnew f hf)

/-- the form store after a signature message of `c` for the form under `key`: unchanged, the form
signed by `c`, or the form consumed -/
inductive FormsStep (c : String) (key : PKey) (F : AMap PKey Form) : AMap PKey Form → Prop
  | same : FormsStep c key F F
  | sign (form : Form) : AMap.get F key = some form →
      FormsStep c key F (AMap.set F key { form with attestations := signed form.attestations c })
  | consume : FormsStep c key F (AMap.erase F key)

theorem attest_formsStep (s : State) (h : Int) (c pr m o : String) (st : Int) :
    FormsStep c (pr, (m, o, st)) s.attests (attest s h c pr m o st).attests := by
  rcases attest_cases s h c pr m o st with ⟨e, -⟩ | ⟨form, hg, -, -, e⟩ | ⟨_, _, _, -, -, -, -, -, -, e⟩
  · rw [e]; exact .same
  · rw [e]; exact .sign form hg
  · rw [e]; exact .consume

theorem report_formsStep {s s' : State} {c pr m o : String} {st : Int}
    (hrep : report s c pr m o st = some s') : FormsStep c (pr, (m, o, st)) s.reports s'.reports := by
  obtain ⟨form, hg, -, ⟨-, e⟩ | ⟨-, f, -, e⟩⟩ := report_cases hrep
  · rw [e]; exact .sign form hg
  · rw [e, (sameForms_removeProver _ f _).reports]; exact .consume

theorem FormsStep.forall {c : String} {key : PKey} {F F' : AMap PKey Form} (h : FormsStep c key F F')
    {P : PKey → Form → Prop}
    (hsign : ∀ form, AMap.get F key = some form → P key form →
      P key { form with attestations := signed form.attestations c })
    (hF : ∀ k f, AMap.get F k = some f → P k f) : ∀ k f, AMap.get F' k = some f → P k f := by
  cases h with
  | same => exact hF
  | sign form hg => exact AMap.forall_set hF (hsign form hg (hF _ _ hg))
  | consume => exact AMap.forall_erase hF _

/-- every form of the new store is a form of the old one, or the addressed form signed -/
theorem FormsStep.get {c : String} {key : PKey} {F F' : AMap PKey Form} (h : FormsStep c key F F')
    {k : PKey} {f' : Form} (hf' : AMap.get F' k = some f') :
    AMap.get F k = some f' ∨
    (k = key ∧ ∃ form, AMap.get F key = some form ∧
      f' = { form with attestations := signed form.attestations c }) :=
  h.forall (P := fun k f' => AMap.get F k = some f' ∨
      (k = key ∧ ∃ form, AMap.get F key = some form ∧
        f' = { form with attestations := signed form.attestations c }))
    (fun form hg _ => Or.inr ⟨rfl, form, hg, rfl⟩) (fun _ _ hf => Or.inl hf) k f' hf'

theorem FormsStep.own_entry_flips {c : String} {addr key : PKey} {F F' : AMap PKey Form}
    (h : FormsStep c addr F F') {f f' : Form} (hf : AMap.get F key = some f)
    (hf' : AMap.get F' key = some f') :
    f'.attestations.map (·.1) = f.attestations.map (·.1) ∧
    (f'.prover, f'.merkle, f'.owner, f'.start) = (f.prover, f.merkle, f.owner, f.start) ∧
    (key ≠ addr → f' = f) ∧
    ∀ (i : Nat) (hi : i < f.attestations.length) (hi' : i < f'.attestations.length),
      f'.attestations[i].1 = f.attestations[i].1 ∧
      (f.attestations[i].2 = true → f'.attestations[i].2 = true) ∧
      (f.attestations[i].2 = false → f'.attestations[i].2 = true →
        f.attestations[i].1 = c ∧ key = addr) := by
  rcases h.get hf' with h1 | ⟨rfl, form, hg, rfl⟩
  · rw [hf] at h1; cases h1
    exact ⟨rfl, rfl, fun _ => rfl, fun i _ _ => ⟨rfl, id, fun h1 h2 => by rw [h1] at h2; cases h2⟩⟩
  · rw [hf] at hg; cases hg
    refine ⟨signed_names _ _, rfl, fun hne => absurd rfl hne, fun i hi hi' => ?_⟩
    simp only [signed_getElem f.attestations c i hi']
    by_cases hc : f.attestations[i].1 = c
    · simp only [hc, if_true]
      exact ⟨trivial, fun _ => trivial, fun _ _ => ⟨trivial, trivial⟩⟩
    · simp only [hc, if_false]
      exact ⟨trivial, id, fun h1 h2 => by rw [h1] at h2; cases h2⟩

theorem report_attests {s s' : State} {c pr m o : String} {st : Int}
    (hrep : report s c pr m o st = some s') : s'.attests = s.attests := by
  obtain ⟨form, -, -, ⟨-, e⟩ | ⟨-, f, -, e⟩⟩ := report_cases hrep
  · rw [e]
  · rw [e]; exact (sameForms_removeProver _ f _).attests

/-- One delivered message and the forms: a property `PA` of all attestation forms and a property
`PR` of all report forms survive the message if the form a request opens has them and signing a
form keeps them — no other message writes a form store. -/
theorem forms_step {PA PR : PKey → Form → Prop} {s s' : State} {h now : Int} {op : Op}
    (hstep : step s h now op = some s')
    (newA : ∀ c m o st ec ch f, op = .requestAttest c m o st ec ch →
      AMap.get s.files (m, o, st) = some f → PA (c, f.key) (freshForm c m o st ch))
    (newR : ∀ c p m o st ec ch f, op = .requestReport c p m o st ec ch →
      AMap.get s.files (m, o, st) = some f → PR (p, f.key) (freshForm p m o st ch))
    (signA : ∀ c p m o st form, op = .attest c p m o st → PA (p, (m, o, st)) form →
      PA (p, (m, o, st)) { form with attestations := signed form.attestations c })
    (signR : ∀ c p m o st form, op = .report c p m o st → PR (p, (m, o, st)) form →
      PR (p, (m, o, st)) { form with attestations := signed form.attestations c })
    (hA : ∀ k f, AMap.get s.attests k = some f → PA k f)
    (hR : ∀ k f, AMap.get s.reports k = some f → PR k f) :
    (∀ k f, AMap.get s'.attests k = some f → PA k f) ∧
    (∀ k f, AMap.get s'.reports k = some f → PR k f) := by
  have same : ∀ {s'}, SameForms s s' → (∀ k f, AMap.get s'.attests k = some f → PA k f) ∧
      (∀ k f, AMap.get s'.reports k = some f → PR k f) :=
    fun e => by rw [e.attests, e.reports]; exact ⟨hA, hR⟩
  cases op with
  | requestAttest c m o st ec ch =>
    cases hstep
    split
    · rename_i forms hreq
      exact ⟨requestForm_forall hreq (fun f hf => newA c m o st ec ch f rfl hf) hA, hR⟩
    · exact ⟨hA, hR⟩
  | requestReport c p m o st ec ch =>
    cases hstep
    split
    · rename_i forms hreq
      exact ⟨hA, requestForm_forall hreq (fun f hf => newR c p m o st ec ch f rfl hf) hR⟩
    · exact ⟨hA, hR⟩
  | attest c p m o st =>
    cases hstep
    refine ⟨(attest_formsStep s h c p m o st).forall (fun form _ => signA c p m o st form rfl) hA, ?_⟩
    rw [(attest_frame s h c p m o st).2.2.1]; exact hR
  | report c p m o st =>
    refine ⟨?_, (report_formsStep hstep).forall (fun form _ => signR c p m o st form rfl) hR⟩
    rw [report_attests hstep]; exact hA
  | postFile c m fs mp ex pt note nv jp gid gacc => exact same (sameForms_postFile hstep)
  | deleteFile c m st => cases hstep; exact same (sameForms_removeFile _ _)
  | postProof c m o st tp v nc => cases hstep; exact same (sameForms_postProof _ _ _ _ _ _ _ _ _)
  | _ => exact same (sameIdx_step_other rfl hstep).forms

theorem no_forms {F : AMap PKey Form} (h0 : F = []) {P : PKey → Form → Prop} :
    ∀ k f, AMap.get F k = some f → P k f := by
  rw [h0]; exact fun _ _ hf => nomatch hf

end Canine.Storage
