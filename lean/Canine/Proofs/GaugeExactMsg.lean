/-
Gauge exactness for C12: every message keeps `GaugeExact`, given `MsgOk` and the
no-outside-credit side condition `NoCredit` on the message.

Every place where a storage message credits an account:
* `initProvider`: signer → collateral account          (never an escrow account: `GaugeInv.accNe`);
* `shutdownProvider`: collateral account → signer      (never an escrow account: `MsgOk.signer`);
* `postFile` (pay-once): signer → module account → the escrow account of the gauge it creates/tops up;
* `buyStorage`: signer → module account → escrow account of its gauge, then module account → POL
  account, and module account → referrer (if one resolved and is not the signer) or fee account.
So the only recipients that `GaugeInv`/`MsgOk` do not already keep apart from escrow accounts are
`buyStorage`'s POL account, fee account and referrer: `NoCredit.payees`.  `NoCredit.fresh` is the
same hypothesis at creation time: the escrow account of a gauge that is not stored yet holds no ujkl
(nobody has pre-funded the hash-derived address, and an id is not re-used after its gauge was removed
with coins left in escrow), and is not the signer.
-/
import Canine.Proofs.GaugeInvStep
import Canine.Proofs.GaugeExactDef
namespace Canine.Storage
open Bank GI

/-- no outside credit by a message (the two fields are explained at the head of the file) -/
structure NoCredit (s : State) (op : Op) : Prop where
  payees : ∀ a ∈ op.payees s, (∀ kv ∈ s.gauges, a ≠ kv.2.account) ∧
    ∀ gid gacc, op.gaugeOf = some (gid, gacc) → a ≠ gacc
  fresh : ∀ gid gacc, op.gaugeOf = some (gid, gacc) → AMap.get s.gauges gid = none →
    op.creator ≠ gacc ∧ bal s.bank gacc "ujkl" = 0

theorem CoinsOk.exact_of_bal {cs : Coins} {b : Bank} {a : String} (h : CoinsOk cs)
    (hb : bal b a "ujkl" = amt "ujkl" cs) :
    (∀ c ∈ cs, c.2 - bal b a c.1 = 0) ∧ (cs = [] → bal b a "ujkl" = 0) := by
  refine ⟨fun c hc => ?_, fun e => by rw [hb, e]; rfl⟩
  obtain ⟨e1, e2⟩ := h.mem hc
  rw [e1, hb, e2, Int.sub_self]

/-- The other gauges' escrow accounts are not touched; the new (or
same-block) gauge starts now and holds in escrow exactly what it records. -/
theorem deposit_fx {E : EscrowScheme} {s s' : State} {now : Int} {creator gid gacc : String} {payees : List String}
    (hex : GaugeExact E s now) (hd : DepositX s s' now creator gid gacc payees)
    (hacc : gacc = E.accOf gid) (hm : gacc ≠ s.moduleAcc)
    (hsame : ∀ g, AMap.get s.gauges gid = some g → g.startT = now)
    (hcr : ∀ kv ∈ s.gauges, creator ≠ kv.2.account)
    (hpay : ∀ a ∈ payees, (∀ kv ∈ s.gauges, a ≠ kv.2.account) ∧ a ≠ gacc)
    (hfresh : AMap.get s.gauges gid = none → creator ≠ gacc ∧ bal s.bank gacc "ujkl" = 0) :
    StepFx s s' now := by
  have hinv := hex.inv
  obtain ⟨x, endT, pay, b1, b2, hx, hend, h1, h2, h3, hg, -, -⟩ := hd
  have hg : s'.gauges = AMap.set s.gauges gid
      { id := gid, startT := now, endT := endT, coins := mergedCoins s gid (coinsOf "ujkl" x), account := gacc } := hg
  obtain ⟨hMok, hb2, hrec⟩ := deposit_record hinv (coinsOk_coinsOf hx) h1 h2 hacc hm hcr
  intro kv hkv
  rw [hg] at hkv
  rcases (AMap.mem_set_iff hinv.wf).mp hkv with rfl | ⟨hm', hne⟩
  · -- the escrow account holds exactly the record
    have hbal : bal s'.bank gacc "ujkl" = amt "ujkl" (mergedCoins s gid (coinsOf "ujkl" x)) := by
      rw [h3.bal_eq hm (fun hp => (hpay gacc hp).2 rfl) "ujkl", hb2]
      rcases hrec with ⟨hget, e⟩ | ⟨g0, hget, ha0, hb1, e⟩
      · obtain ⟨f1, f2⟩ := hfresh hget
        rw [e, bal_send_other h1 f1 (Ne.symm hm), f2, Int.zero_add]
      · have hmem := AMap.mem_of_get hget
        have hx0 : GaugeExactOk s.bank now g0 := hex.exact _ hmem
        rw [← hsame g0 hget] at hx0
        rw [e, hb1, ← ha0, hx0.at_start (hinv.ok _ hmem).long (hinv.ok _ hmem).coins]
    exact Or.inr ⟨rfl, hend, hMok.exact_of_bal hbal⟩
  · left
    refine ⟨hm', fun d => ?_⟩
    have hag : kv.2.account ≠ gacc := by
      rw [(hinv.ids kv hm').2, hacc]
      intro e; exact hne (E.inj _ _ e)
    have ham := (hinv.accNe kv hm').1
    rw [h3.bal_eq ham (fun hp => (hpay _ hp).1 kv hm' rfl) d,
      bal_send_other h2 (Ne.symm ham) (Ne.symm hag) d,
      bal_send_other h1 (hcr kv hm') (Ne.symm ham) d]

theorem step_fx {E : EscrowScheme} {s s' : State} {h now : Int} {op : Op}
    (hex : GaugeExact E s now) (hok : MsgOk E s now op) (hnc : NoCredit s op) (hstep : step s h now op = some s') :
    StepFx s s' now := by
  have hsig : ∀ kv ∈ s.gauges, acctOf s op.creator ≠ kv.2.account := fun kv hkv => (hok.signer kv hkv).2
  have hcoll : ∀ kv ∈ s.gauges, s.collateralAcc ≠ kv.2.account := fun kv hkv => Ne.symm (hex.inv.accNe kv hkv).2
  rcases step_shape hstep with hc | ht | ht | ⟨gid, gacc, hop, hd⟩
  · exact StepFx.of_sameCore hc
  · exact StepFx.of_transfer ht hsig hcoll
  · exact StepFx.of_transfer ht hcoll hsig
  · obtain ⟨o1, o2, _, o4⟩ := hok.oracle gid gacc hop
    exact deposit_fx hex hd o1 o2 o4 (fun kv hkv => (hok.signer kv hkv).1)
      (fun a ha => ⟨(hnc.payees a ha).1, (hnc.payees a ha).2 gid gacc hop⟩) (hnc.fresh gid gacc hop)

theorem stepT_fx {E : EscrowScheme} {s : State} {h now : Int} {op : Op}
    (hex : GaugeExact E s now) (hok : MsgOk E s now op) (hnc : NoCredit s op) : StepFx s (stepT s h now op) now :=
  getD_inv (P := fun t => StepFx s t now) (StepFx.refl s now) (fun _ hs => step_fx hex hok hnc hs)

theorem stepT_gaugeExact {E : EscrowScheme} {s : State} {h now : Int} {op : Op}
    (hex : GaugeExact E s now) (hok : MsgOk E s now op) (hnc : NoCredit s op) :
    GaugeExact E (stepT s h now op) now :=
  ⟨stepT_gaugeInv hex.inv hok, (stepT_fx hex hok hnc).exact hex.exact⟩

end Canine.Storage
