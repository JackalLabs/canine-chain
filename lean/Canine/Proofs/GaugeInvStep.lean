/-
Gauge invariant for C05: every message keeps `GaugeInv`, given the benign side conditions
`MsgOk` on the message (who signed it, what the id/escrow-account oracle returned).
-/
import Canine.Proofs.GaugeInvMsg
namespace Canine.Storage
open Bank GI

/-- the gauge id and escrow account the chain derived for a gauge-creating message (oracle inputs
of the model) -/
def Op.gaugeOf : Op → Option (String × String)
  | .postFile _ _ _ _ _ _ _ _ _ gid gacc => some (gid, gacc)
  | .buyStorage _ _ _ _ _ _ _ gid gacc => some (gid, gacc)
  | _ => none

/-- the accounts a message pays that are neither one of the two module accounts, nor its signer, nor
the escrow account of the gauge it funds -/
def Op.payees (s : State) : Op → List String
  | .buyStorage _ _ _ _ _ ref _ _ _ => [s.polAcc, s.feeAcc] ++ ref.toList
  | _ => []

/-- what a successful message does to ledger and gauge store: nothing; or coins move between the
signer's account and the collateral account; or a deposit into the gauge of the message -/
theorem step_shape {s s' : State} {h now : Int} {op : Op} (hstep : step s h now op = some s') :
    SameCore s s' ∨ Transfer s s' (acctOf s op.creator) s.collateralAcc ∨
    Transfer s s' s.collateralAcc (acctOf s op.creator) ∨
    ∃ gid gacc, op.gaugeOf = some (gid, gacc) ∧ DepositX s s' now op.creator gid gacc (op.payees s) := by
  by_cases hm : op.movesMoney = false
  · exact Or.inl (step_sameMoney hm hstep).core
  cases op with
  | postFile c m fs mp ex pt note nv jp gid gacc =>
    exact (postFile_deposit hstep).imp_right fun hd => Or.inr (Or.inr ⟨gid, gacc, rfl, hd⟩)
  | buyStorage c fa dd b dn ref jp gid gacc =>
    exact Or.inr (Or.inr (Or.inr ⟨gid, gacc, rfl, buyStorage_deposit hstep⟩))
  | initProvider c ip kb ts iv =>
    obtain ⟨-, -, hs, e⟩ := initProvider_spec hstep
    exact Or.inr (Or.inl ⟨⟨_, hs⟩, by rw [e], by rw [e], by rw [e]⟩)
  | shutdownProvider c =>
    rcases (shutdownProvider_spec hstep).2 with ⟨_, -, -, -, hs, e⟩ | ⟨-, rfl⟩
    · exact Or.inr (Or.inr (Or.inl ⟨⟨_, hs⟩, by rw [e], by rw [e], by rw [e]⟩))
    · exact Or.inl ⟨rfl, rfl, rfl, rfl⟩
  | _ => exact absurd rfl hm

/-- side conditions on one delivered message (no gauge arithmetic):
* `signer` — the message is not signed by the escrow account of a stored gauge, neither as the
  string sent nor as the account that string denotes (the payer of `initProvider`).  Escrow accounts
  are derived by hashing the gauge id; nobody holds a key for them (C15 assumes the same of the
  collateral account, `signedAlong`).
* `oracle` — for the two gauge-creating messages: the escrow account is `E.accOf` of the gauge id (the
  chain's fixed derivation), it is neither the storage module account nor the collateral account
  (module accounts are derived from their names, escrow accounts from gauge ids), and if a gauge
  with this id is already stored it was created at this same block time (the id is the hash of
  block height, end and coins, so an equal id means an equal height, hence an equal block time —
  `IdScheme` in Props/C12.lean). -/
structure MsgOk (E : EscrowScheme) (s : State) (now : Int) (op : Op) : Prop where
  signer : ∀ kv ∈ s.gauges, op.creator ≠ kv.2.account ∧ acctOf s op.creator ≠ kv.2.account
  oracle : ∀ gid gacc, op.gaugeOf = some (gid, gacc) →
    gacc = E.accOf gid ∧ gacc ≠ s.moduleAcc ∧ gacc ≠ s.collateralAcc ∧
    ∀ g, AMap.get s.gauges gid = some g → g.startT = now

theorem step_gaugeInv {E : EscrowScheme} {s s' : State} {h now : Int} {op : Op}
    (hinv : GaugeInv E s now) (hok : MsgOk E s now op) (hstep : step s h now op = some s') :
    GaugeInv E s' now := by
  rcases step_shape hstep with hc | ht | ht | ⟨gid, gacc, hop, hd⟩
  · exact hinv.sameCore hc
  · exact hinv.transfer ht fun kv hkv => (hok.signer kv hkv).2
  · exact hinv.transfer ht fun kv hkv => Ne.symm (hinv.accNe kv hkv).2
  · obtain ⟨o1, o2, o3, o4⟩ := hok.oracle gid gacc hop
    exact deposit_inv hinv hd.deposit o1 o2 o3 o4 fun kv hkv => (hok.signer kv hkv).1

/-- a delivered message, failed or not (`stepT` commits nothing on failure) -/
theorem stepT_gaugeInv {E : EscrowScheme} {s : State} {h now : Int} {op : Op}
    (hinv : GaugeInv E s now) (hok : MsgOk E s now op) : GaugeInv E (stepT s h now op) now :=
  getD_inv (P := fun t => GaugeInv E t now) hinv (fun _ hs => step_gaugeInv hinv hok hs)

end Canine.Storage
