/-
Gauge exactness for C12: the reward block.

`pullGauge` at block time `now` on a gauge that is on schedule (`GaugeInv`) leaves it with
`A − bal = trunc(would(now))` exactly, a gauge past its end or with an empty escrow account is removed
without any transfer, and the other gauges' pulls move coins from their own escrow accounts to the
module account only (`manageRewards_gauges` in Proofs/GaugeInvBlock.lean).  The payouts credit the
tracker's provers; `BlockNoCredit` says none of them is the escrow account of a stored gauge.
-/
import Canine.Proofs.GaugeExactDef
namespace Canine.Storage
open Bank GI

/-- the size credited this block, per prover: the recipients of the block's payouts -/
def blockTracker (s : State) (h : Int) : Tracker :=
  (s.files.foldl (fun (acc : State × Tracker) kv => manageFile acc.1 h acc.2 kv.2) (s, [])).2

/-- none of the provers the block pays is the escrow account
of a stored gauge.  (The provers are the signers of earlier `PostProof` messages; an escrow account
is the hash of a gauge id and signs nothing.) -/
def BlockNoCredit (s : State) (h : Int) : Prop :=
  ∀ pw ∈ blockTracker s h, ∀ kv ∈ s.gauges, pw.1 ≠ kv.2.account

structure BlockFx (s s' : State) (now : Int) : Prop where
  sub : ∀ kv ∈ s'.gauges, kv ∈ s.gauges
  live : ∀ kv ∈ s'.gauges, now ≤ kv.2.endT ∧ ExactAt s'.bank now kv.2
  frozen : ∀ kv ∈ s.gauges, (kv.2.endT < now ∨ kv.2.coins = []) →
    ∀ d, bal s'.bank kv.2.account d = bal s.bank kv.2.account d

theorem beginBlock_skip {s s' : State} {h now : Int} (hrun : Int.tmod h s.params.checkWindow > 0)
    (hb : beginBlock s h now = .ok s') : s' = s :=
  (beginBlock_spec hb).2.elim (·.2) fun hr => absurd hrun hr.1

theorem beginBlock_fx {E : EscrowScheme} {s s' : State} {h now : Int}
    (hinv : GaugeInv E s now) (hnc : BlockNoCredit s h) (hrun : ¬ Int.tmod h s.params.checkWindow > 0)
    (hb : beginBlock s h now = .ok s') : BlockFx s s' now := by
  rcases (beginBlock_spec hb).2 with ⟨hpos, _⟩ | ⟨_, hr⟩
  · exact absurd hpos hrun
  obtain ⟨s2, b, _, _, p3, p4, p5, hsent, rfl⟩ := manageRewards_gauges hinv hr
  -- the payouts leave the escrow accounts alone
  have hesc : ∀ kv ∈ s.gauges, ∀ d, bal b kv.2.account d = bal s2.bank kv.2.account d :=
    fun kv hkv d => hsent.bal_eq (hinv.accNe kv hkv).1 (fun ⟨pw, hpw, e⟩ => hnc pw hpw kv hkv e) d
  exact ⟨p3, fun kv hkv => ⟨(p4 kv hkv).1, fun c hc => (by rw [hesc kv (p3 kv hkv)]; exact (p4 kv hkv).2 c hc)⟩,
    fun kv hkv hc d => (hesc kv hkv d).trans (p5 kv hkv hc d)⟩

theorem beginBlock_gaugeExact {E : EscrowScheme} {s s' : State} {h now : Int}
    (hex : GaugeExact E s now) (hnc : BlockNoCredit s h) (hb : beginBlock s h now = .ok s') :
    GaugeExact E s' now := by
  by_cases hrun : Int.tmod h s.params.checkWindow > 0
  · rw [beginBlock_skip hrun hb]; exact hex
  · have fx := beginBlock_fx hex.inv hnc hrun hb
    have hinv' := beginBlock_inv hex.inv hb
    refine ⟨hinv', fun kv hkv => ?_⟩
    obtain ⟨l1, l2⟩ := fx.live kv hkv
    have hm := fx.sub kv hkv
    refine ⟨fun hc => ?_, now, (hinv'.ok kv hkv).started, Int.le_refl _, l1, l2⟩
    rw [fx.frozen kv hm (Or.inr hc)]
    exact (hex.exact kv hm).empty hc

theorem beginBlock_released_mono {E : EscrowScheme} {s s' : State} {h now : Int}
    (hex : GaugeExact E s now) (hnc : BlockNoCredit s h) (hb : beginBlock s h now = .ok s') :
    ∀ kv ∈ s'.gauges, kv ∈ s.gauges ∧
      ∀ c ∈ kv.2.coins, c.2 - bal s.bank kv.2.account c.1 ≤ c.2 - bal s'.bank kv.2.account c.1 := by
  by_cases hrun : Int.tmod h s.params.checkWindow > 0
  · rw [beginBlock_skip hrun hb]; exact fun kv hkv => ⟨hkv, fun _ _ => Int.le_refl _⟩
  · have fx := beginBlock_fx hex.inv hnc hrun hb
    intro kv hkv
    have hm := fx.sub kv hkv
    refine ⟨hm, fun c hc => ?_⟩
    obtain ⟨l1, l2⟩ := fx.live kv hkv
    obtain ⟨t', t1, t2, t3, t4⟩ := (hex.exact kv hm).at_
    have hok := hex.inv.ok kv hm
    rw [l2 c hc, t4 c hc]
    exact trunc_would_mono ⟨t1, t3, hok.long⟩ (hok.live l1) t2 (hok.coins.nonneg c hc)

end Canine.Storage
