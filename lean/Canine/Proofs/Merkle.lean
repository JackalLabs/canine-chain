/-
Theorems about the Merkle tree model of `Canine.Storage.Merkle`:

* completeness: the proof `genProof` produces verifies against `root`, for every hash function;
* soundness in collision-extraction form: an accepted proof is a proof for the real leaf, or it
  exhibits a collision of `H` or a pre-image of the all-zero padding node;
* the chain-side leaf encoding `decimal(index) ‖ hex(item)` is injective for a fixed index and
  NOT injective across indices;
* corollaries for the chain's `verifyProof` / `verifyProofUnfixed`.

Core Lean only.
-/
import Canine.Storage.Merkle
import Canine.Proofs.Basic
namespace Canine.Storage.Merkle

section
variable (H : Bytes → Bytes)

theorem verify_iff (rt d : Bytes) (i : Nat) (hs : List Bytes) :
    verify H rt d i hs = true ↔ proofHash H d i hs = rt := by
  unfold verify; exact decide_eq_true_iff

theorem eq_or_collision {F : Bytes → Bytes} {a b : Bytes} (h : F a = F b) : a = b ∨ ∃ x y, x ≠ y ∧ F x = F y :=
  (Decidable.em (a = b)).imp_right fun e => ⟨a, b, e, h⟩

theorem le_two_pow_depthFor (n : Nat) : n ≤ 2 ^ depthFor n := by
  unfold depthFor
  split
  · simp; omega
  · have := @Nat.lt_log2_self (n - 1)
    omega

theorem length_leafLevel (hashLen : Nat) (data : List Bytes) :
    (leafLevel H hashLen data).length = 2 ^ depthFor data.length := by
  have := le_two_pow_depthFor data.length
  simp only [leafLevel, List.length_append, List.length_map, List.length_replicate]
  omega

theorem length_pathD : ∀ (d : Nat) (l : List Bytes) (i : Nat), (pathD H d l i).length = d
  | 0, _, _ => rfl
  | d + 1, l, i => by rw [pathD, List.length_cons, length_pathD d]

theorem length_genProof (hashLen : Nat) (data : List Bytes) (i : Nat) :
    (genProof H hashLen data i).length = depthFor data.length :=
  length_pathD H _ _ _

theorem pairUp_length : ∀ l : List Bytes, (pairUp H l).length = l.length / 2
  | [] => rfl
  | [_] => by simp [pairUp]
  | _ :: _ :: rest => by
    rw [pairUp, List.length_cons, pairUp_length rest, List.length_cons, List.length_cons]
    exact (Nat.add_div_right _ (by decide)).symm

theorem pairUp_length_pow {l : List Bytes} {d : Nat} (h : l.length = 2 ^ (d + 1)) : (pairUp H l).length = 2 ^ d := by
  rw [pairUp_length, h, Nat.pow_succ, Nat.mul_div_cancel _ (by decide)]

theorem pairUp_getD : ∀ (l : List Bytes) (j : Nat), 2 * j + 1 < l.length →
    (pairUp H l).getD j [] = h2 H (l.getD (2 * j) []) (l.getD (2 * j + 1) [])
  | [], _, h => nomatch h
  | [_], _, h => absurd h (by simp)
  | _ :: _ :: _, 0, _ => rfl
  | _ :: _ :: rest, j + 1, h => pairUp_getD rest j (by simp only [List.length_cons] at h; omega)

/-- the verifier's fold only looks at the low `hs.length` bits of the index -/
theorem foldIdx_congr : ∀ (hs : List Bytes) (cur : Bytes) (i j : Nat), i % 2 ^ hs.length = j % 2 ^ hs.length →
    foldIdx H cur i hs = foldIdx H cur j hs
  | [], _, _, _, _ => rfl
  | s :: rest, cur, i, j, h => by
    rw [List.length_cons, Nat.pow_succ, Nat.mul_comm] at h
    have h0 : i % 2 = j % 2 := by
      rw [← Nat.mod_mul_right_mod i 2 (2 ^ rest.length), h, Nat.mod_mul_right_mod]
    have h1 : i / 2 % 2 ^ rest.length = j / 2 % 2 ^ rest.length := by
      rw [← Nat.mod_mul_right_div_self, h, Nat.mod_mul_right_div_self]
    rw [foldIdx, foldIdx, h0]
    exact foldIdx_congr rest _ _ _ h1

theorem proofHash_congr (d : Bytes) (hs : List Bytes) {i j : Nat} (h : i % 2 ^ hs.length = j % 2 ^ hs.length) :
    proofHash H d i hs = proofHash H d j hs :=
  foldIdx_congr H hs _ _ _ (by rw [Nat.add_mod_right, Nat.add_mod_right, h])

theorem complete_aux : ∀ (d : Nat) (l : List Bytes) (i : Nat),
    l.length = 2 ^ d → i < 2 ^ d →
    foldIdx H (l.getD i []) i (pathD H d l i) = rootD H d l
  | 0, l, i, _, hi => by
      obtain rfl : i = 0 := Nat.lt_one_iff.mp hi
      rfl
  | d + 1, l, i, hl, hi => by
      have hj : i / 2 < 2 ^ d := (Nat.div_lt_iff_lt_mul (by decide)).mpr hi
      have hdm : 2 * (i / 2) + i % 2 = i := Nat.div_add_mod i 2
      have hlt : 2 * (i / 2) + 1 < l.length := by rw [hl, Nat.pow_succ]; omega
      change foldIdx H (if i % 2 = 0 then h2 H (l.getD i []) (l.getD (if i % 2 = 0 then i + 1 else i - 1) [])
          else h2 H (l.getD (if i % 2 = 0 then i + 1 else i - 1) []) (l.getD i []))
        (i / 2) (pathD H d (pairUp H l) (i / 2)) = rootD H d (pairUp H l)
      rw [← complete_aux d (pairUp H l) (i / 2) (pairUp_length_pow H hl) hj, pairUp_getD H l (i / 2) hlt]
      -- node `i` and its sibling are the children `2 * (i / 2)` and `2 * (i / 2) + 1` of the parent, in this order
      generalize 2 * (i / 2) = k at hdm ⊢
      rcases Nat.mod_two_eq_zero_or_one i with hpar | hpar
      all_goals
        rw [hpar] at hdm ⊢
        subst hdm
        rfl

theorem leafLevel_getD_lt (hashLen : Nat) (data : List Bytes) (i : Nat) (hi : i < data.length) :
    (leafLevel H hashLen data).getD i [] = H (data.getD i []) := by
  simp only [List.getD_eq_getElem?_getD]
  rw [leafLevel, List.getElem?_append_left (by simpa using hi)]
  simp [List.getElem?_eq_getElem hi]

theorem leafLevel_getD_ge (hashLen : Nat) (data : List Bytes) (i : Nat) (hi : data.length ≤ i)
    (hi2 : i < 2 ^ depthFor data.length) :
    (leafLevel H hashLen data).getD i [] = zeroNode hashLen := by
  rw [List.getD_eq_getElem?_getD, leafLevel, List.getElem?_append_right (by simpa using hi)]
  rw [List.getElem?_replicate_of_lt (by simp; omega)]
  rfl

/-- completeness: the generated proof verifies, for every hash function and every leaf -/
theorem merkle_complete (H : Bytes → Bytes) (hashLen : Nat) (data : List Bytes) (i : Nat)
    (hi : i < data.length) :
    verify H (root H hashLen data) (data.getD i []) i (genProof H hashLen data i) = true := by
  have hc := complete_aux H (depthFor data.length) (leafLevel H hashLen data) i
    (length_leafLevel H hashLen data) (Nat.lt_of_lt_of_le hi (le_two_pow_depthFor data.length))
  rw [leafLevel_getD_lt H hashLen data i hi] at hc
  rw [verify_iff, proofHash, foldIdx_congr H _ _ _ i (Nat.add_mod_right ..)]
  exact hc

theorem pairUp_append : ∀ (a b : List Bytes), a.length % 2 = 0 →
    pairUp H (a ++ b) = pairUp H a ++ pairUp H b
  | [], _, _ => rfl
  | [_], _, h => nomatch h
  | _ :: _ :: rest, b, h => by
    rw [List.cons_append, List.cons_append, pairUp, pairUp, List.cons_append,
      pairUp_append rest b (by rw [List.length_cons, List.length_cons] at h; omega)]

/-- top-down view of the tree: the root of `2^(D+1)` nodes hashes the roots of the two halves -/
theorem rootD_append : ∀ (D : Nat) (l1 l2 : List Bytes), l1.length = 2 ^ D → l2.length = 2 ^ D →
    rootD H (D + 1) (l1 ++ l2) = h2 H (rootD H D l1) (rootD H D l2)
  | 0, l1, l2, e1, e2 => by
      obtain ⟨a, rfl⟩ := List.length_eq_one_iff.mp e1
      obtain ⟨b, rfl⟩ := List.length_eq_one_iff.mp e2
      rfl
  | D + 1, l1, l2, e1, e2 => by
      rw [rootD, pairUp_append H l1 l2 (by rw [e1, Nat.pow_succ, Nat.mul_mod_left]),
        rootD_append D _ _ (pairUp_length_pow H e1) (pairUp_length_pow H e2)]
      rfl

theorem split_pow (D : Nat) (l : List Bytes) (h : l.length = 2 ^ (D + 1)) :
    ∃ l1 l2, l = l1 ++ l2 ∧ l1.length = 2 ^ D ∧ l2.length = 2 ^ D := by
  rw [Nat.pow_succ] at h
  exact ⟨l.take (2 ^ D), l.drop (2 ^ D), (List.take_append_drop _ _).symm,
    by rw [List.length_take, h]; omega, by rw [List.length_drop, h]; omega⟩

/-- the node `idx % 2^(D+1)` of a level lies in the half, and at the place in it, that the bits of `idx` say -/
theorem getD_append_pow (D : Nat) (l1 l2 : List Bytes) (e1 : l1.length = 2 ^ D) (idx : Nat) :
    (l1 ++ l2).getD (idx % 2 ^ (D + 1)) [] =
      if idx / 2 ^ D % 2 = 0 then l1.getD (idx % 2 ^ D) [] else l2.getD (idx % 2 ^ D) [] := by
  have hlt : idx % 2 ^ D < l1.length := by rw [e1]; exact Nat.mod_lt _ (Nat.pow_pos (by decide))
  rw [Nat.mod_pow_succ]
  simp only [List.getD_eq_getElem?_getD]
  rcases Nat.mod_two_eq_zero_or_one (idx / 2 ^ D) with hb | hb
  · rw [hb, if_pos rfl, Nat.mul_zero, Nat.add_zero, List.getElem?_append_left hlt]
  · rw [hb, if_neg (by decide), Nat.mul_one, ← e1, List.getElem?_append_right (Nat.le_add_left ..), Nat.add_sub_cancel]

theorem foldIdx_append : ∀ (a b : List Bytes) (cur : Bytes) (idx : Nat),
    foldIdx H cur idx (a ++ b) = foldIdx H (foldIdx H cur idx a) (idx / 2 ^ a.length) b
  | [], b, cur, idx => by rw [List.length_nil, Nat.pow_zero, Nat.div_one]; rfl
  | s :: rest, b, cur, idx => by
      rw [List.cons_append, foldIdx, foldIdx, List.length_cons, foldIdx_append rest b, Nat.div_div_eq_div_mul,
        Nat.pow_succ, Nat.mul_comm]

theorem foldIdx_concat (init : List Bytes) (s cur : Bytes) (idx : Nat) :
    foldIdx H cur idx (init ++ [s]) =
      if idx / 2 ^ init.length % 2 = 0 then h2 H (foldIdx H cur idx init) s
      else h2 H s (foldIdx H cur idx init) := by
  rw [foldIdx_append]; rfl

/-- `hlen` asks for equal lengths on one side only: that is what is known where `sound_td` uses it
(the side of the tree the chain came through) -/
theorem h2_inj_or_collision {a b c d : Bytes} (hlen : a.length = c.length ∨ b.length = d.length)
    (h : h2 H a b = h2 H c d) : (a = c ∧ b = d) ∨ ∃ x y, x ≠ y ∧ H x = H y :=
  (eq_or_collision h).imp_left fun e => hlen.elim (List.append_inj e) (List.append_inj' e)

section sound
variable (hashLen : Nat) (hlen : ∀ x, (H x).length = hashLen)

/-- What a chain `hs` that leads from `cur` to the root of the `2^D` nodes `l` says.  Either it has
exactly the depth of the tree and starts at the leaf selected by the low bits of the index; or it
is too short (then it starts at an internal node, the hash of `2*hashLen` bytes); or it is too long
(then some leaf-level node is the hash of at least `hashLen` bytes); or there is a collision. -/
def Verdict (D : Nat) (l hs : List Bytes) (cur : Bytes) (idx : Nat) : Prop :=
  (hs.length = D ∧ cur = l.getD (idx % 2 ^ D) [])
  ∨ (hs.length < D ∧ ∃ y, y.length = 2 * hashLen ∧ cur = H y)
  ∨ (D < hs.length ∧ ∃ z ∈ l, ∃ y, hashLen ≤ y.length ∧ H y = z)
  ∨ (∃ x y, x ≠ y ∧ H x = H y)

theorem Verdict.lift {D : Nat} {l lh init : List Bytes} {cur : Bytes} {idx : Nat} (s : Bytes)
    (hsub : ∀ z ∈ lh, z ∈ l)
    (hget : init.length = D → l.getD (idx % 2 ^ (D + 1)) [] = lh.getD (idx % 2 ^ D) []) :
    Verdict H hashLen D lh init cur idx → Verdict H hashLen (D + 1) l (init ++ [s]) cur idx
  | .inl ⟨h1, h2⟩ => .inl ⟨by rw [List.length_append, h1]; rfl, h2.trans (hget h1).symm⟩
  | .inr (.inl ⟨h1, h2⟩) => .inr (.inl ⟨by rw [List.length_append]; exact Nat.succ_lt_succ h1, h2⟩)
  | .inr (.inr (.inl ⟨h1, z, hz, h2⟩)) =>
    .inr (.inr (.inl ⟨by rw [List.length_append]; exact Nat.succ_lt_succ h1, z, hsub z hz, h2⟩))
  | .inr (.inr (.inr h)) => .inr (.inr (.inr h))

include hlen

theorem foldIdx_length : ∀ (hs : List Bytes) (cur : Bytes) (idx : Nat), cur.length = hashLen →
    (foldIdx H cur idx hs).length = hashLen
  | [], _, _, h => h
  | s :: rest, cur, idx, h => by
      rw [foldIdx]
      apply foldIdx_length
      split <;> exact hlen _

theorem rootD_length : ∀ (D : Nat) (l : List Bytes), l.length = 2 ^ D →
    (∀ x ∈ l, x.length = hashLen) → (rootD H D l).length = hashLen
  | 0, l, e, hl => by
      obtain ⟨a, rfl⟩ := List.length_eq_one_iff.mp e
      exact hl a List.mem_cons_self
  | D + 1, l, e, hl => by
      obtain ⟨l1, l2, rfl, e1, e2⟩ := split_pow D l e
      rw [rootD_append H D l1 l2 e1 e2]
      exact hlen _

/-- Walk the verifier's chain from the top of the tree downwards, comparing with the real tree. -/
theorem sound_td : ∀ (D : Nat) (l : List Bytes) (hs : List Bytes) (cur : Bytes) (idx : Nat),
    l.length = 2 ^ D → (∀ x ∈ l, x.length = hashLen) → cur.length = hashLen →
    foldIdx H cur idx hs = rootD H D l → Verdict H hashLen D l hs cur idx
  | 0, l, hs, cur, idx, e, hl, hc, h => by
      obtain ⟨a, rfl⟩ := List.length_eq_one_iff.mp e
      rcases eq_nil_or_snoc hs with rfl | ⟨init, s, rfl⟩
      · exact .inl ⟨rfl, by rw [Nat.pow_zero, Nat.mod_one]; exact h⟩
      · have hv := foldIdx_length H hashLen hlen init cur idx hc
        rw [foldIdx_concat] at h
        refine .inr (.inr (.inl ⟨by rw [List.length_append]; exact Nat.succ_pos _, a, List.mem_cons_self, ?_⟩))
        split at h
        · exact ⟨_, by rw [List.length_append, hv]; exact Nat.le_add_right .., h⟩
        · exact ⟨_, by rw [List.length_append, hv]; exact Nat.le_add_left .., h⟩
  | D + 1, l, hs, cur, idx, e, hl, hc, h => by
      obtain ⟨l1, l2, rfl, e1, e2⟩ := split_pow D l e
      obtain ⟨hl1, hl2⟩ := List.forall_mem_append.mp hl
      have hr1 := rootD_length H hashLen hlen D l1 e1 hl1
      have hr2 := rootD_length H hashLen hlen D l2 e2 hl2
      rw [rootD_append H D l1 l2 e1 e2] at h
      rcases eq_nil_or_snoc hs with rfl | ⟨init, s, rfl⟩
      · exact .inr (.inl ⟨Nat.succ_pos D, _, by rw [List.length_append, hr1, hr2, Nat.two_mul], h⟩)
      · have hv := foldIdx_length H hashLen hlen init cur idx hc
        have hget := getD_append_pow D l1 l2 e1 idx
        rw [foldIdx_concat] at h
        -- the side on which the chain enters the root is the half of the tree it came through
        split at h
        · next hb =>
          rcases h2_inj_or_collision H (.inl (hv.trans hr1.symm)) h with ⟨hv1, -⟩ | hcoll
          · exact (sound_td D l1 init cur idx e1 hl1 hc hv1).lift H hashLen s (fun z => List.mem_append_left _)
              (fun h1 => by rw [hget, ← h1, if_pos hb])
          · exact .inr (.inr (.inr hcoll))
        · next hb =>
          rcases h2_inj_or_collision H (.inr (hv.trans hr2.symm)) h with ⟨-, hv1⟩ | hcoll
          · exact (sound_td D l2 init cur idx e2 hl2 hc hv1).lift H hashLen s (fun z => List.mem_append_right _)
              (fun h1 => by rw [hget, ← h1, if_neg hb])
          · exact .inr (.inr (.inr hcoll))

end sound

end

theorem mem_leafLevel {H : Bytes → Bytes} {hashLen : Nat} {data : List Bytes} {z : Bytes}
    (hz : z ∈ leafLevel H hashLen data) : (∃ x ∈ data, H x = z) ∨ z = zeroNode hashLen :=
  (List.mem_append.mp hz).imp List.mem_map.mp fun h => (List.mem_replicate.mp h).2

theorem leafLevel_lengths (H : Bytes → Bytes) (hashLen : Nat) (hlen : ∀ x, (H x).length = hashLen) (data : List Bytes) :
    ∀ x ∈ leafLevel H hashLen data, x.length = hashLen := by
  intro x hx
  rcases mem_leafLevel hx with ⟨y, -, rfl⟩ | rfl
  · exact hlen y
  · exact List.length_replicate

/-- soundness, collision-extraction form, WITHOUT any assumption on the index: the verifier
only looks at the low `hs.length` bits of the index (`foldIdx_congr`), so what an accepted proof
authenticates is leaf `i % 2 ^ hs.length`.  (`data ≠ []` is not needed: the root of the empty tree
is the zero node.)

`hdata`, `hd`: a data element is shorter than a node (in the chain a 32-byte SHA-256 digest against
64-byte SHA3-512 nodes, whose pre-images have 128 bytes).  The gap turns a chain of the wrong length
into a collision: too short, `H d` is the hash of a `2 * hashLen`-byte pair; too long, some `H x`,
`x ∈ data`, is the hash of at least `hashLen` bytes (`Verdict`). -/
theorem merkle_sound_gen (H : Bytes → Bytes) (hashLen : Nat) (hlen : ∀ x, (H x).length = hashLen)
    (data : List Bytes) (hdata : ∀ x ∈ data, x.length < hashLen)
    (d : Bytes) (hd : d.length < hashLen) (i : Nat) (hs : List Bytes)
    (hv : proofHash H d i hs = root H hashLen data) :
    (i % 2 ^ hs.length < data.length ∧ hs.length = depthFor data.length
        ∧ d = data.getD (i % 2 ^ hs.length) [])
    ∨ (∃ x y, x ≠ y ∧ H x = H y)
    ∨ (∃ x, H x = zeroNode hashLen) := by
  unfold proofHash root at hv
  rcases sound_td H hashLen hlen (depthFor data.length) (leafLevel H hashLen data) hs (H d)
      (i + 2 ^ hs.length) (length_leafLevel H hashLen data) (leafLevel_lengths H hashLen hlen data)
      (hlen d) hv with ⟨h1, h2⟩ | ⟨_, y, hy, h2⟩ | ⟨_, z, hz, y, hy, h2⟩ | h1
  · rw [← h1, Nat.add_mod_right] at h2
    have hlt : i % 2 ^ hs.length < 2 ^ hs.length := Nat.mod_lt _ (Nat.pow_pos (by decide : 0 < 2))
    by_cases hj : i % 2 ^ hs.length < data.length
    · rw [leafLevel_getD_lt H hashLen data _ hj] at h2
      exact (eq_or_collision h2).elim (fun e => .inl ⟨hj, h1, e⟩) (fun c => .inr (.inl c))
    · rw [leafLevel_getD_ge H hashLen data _ (Nat.le_of_not_lt hj) (h1 ▸ hlt)] at h2
      exact .inr (.inr ⟨d, h2⟩)
  · -- a leaf hash that is also the hash of a node pair: the inputs differ in length
    exact .inr (.inl ⟨d, y, fun e => by rw [e, hy] at hd; omega, h2⟩)
  · rcases mem_leafLevel hz with ⟨x, hx, rfl⟩ | rfl
    · exact .inr (.inl ⟨y, x, fun e => by have := hdata x hx; rw [← e] at this; omega, h2⟩)
    · exact .inr (.inr ⟨y, h2⟩)
  · exact .inr (.inl h1)

/-- corollary of `merkle_sound_gen`: the authenticated data itself is the real leaf.

The hypothesis `hi : i < 2 ^ hs.length` is needed: without it the first disjunct can fail, for
every `H` (see `merkle_sound_needs_index_bound` below: in a two-leaf tree the honest proof of leaf 0
also verifies with index 2, because `2 + 2^1 = 4` has the same low bit as `0 + 2^1`).
`data ≠ []` is not needed. -/
theorem merkle_sound' (H : Bytes → Bytes) (hashLen : Nat) (hlen : ∀ x, (H x).length = hashLen)
    (data : List Bytes) (hdata : ∀ x ∈ data, x.length < hashLen)
    (d : Bytes) (hd : d.length < hashLen) (i : Nat) (hs : List Bytes) (hi : i < 2 ^ hs.length)
    (hv : proofHash H d i hs = root H hashLen data) :
    (i < data.length ∧ d = data.getD i [])
    ∨ (∃ x y, x ≠ y ∧ H x = H y)
    ∨ (∃ x, H x = zeroNode hashLen) := by
  have h := merkle_sound_gen H hashLen hlen data hdata d hd i hs hv
  rw [Nat.mod_eq_of_lt hi] at h
  exact h.imp_left fun ⟨h1, _, h3⟩ => ⟨h1, h3⟩

/-- `merkle_sound'` with the hypothesis `i < data.length` instead (what the chain can establish:
the challenged chunk index is smaller than the number of chunks). -/
theorem merkle_sound_of_lt (H : Bytes → Bytes) (hashLen : Nat) (hlen : ∀ x, (H x).length = hashLen)
    (data : List Bytes) (hdata : ∀ x ∈ data, x.length < hashLen)
    (d : Bytes) (hd : d.length < hashLen) (i : Nat) (hs : List Bytes) (hi : i < data.length)
    (hv : proofHash H d i hs = root H hashLen data) :
    d = data.getD i []
    ∨ (∃ x y, x ≠ y ∧ H x = H y)
    ∨ (∃ x, H x = zeroNode hashLen) :=
  (merkle_sound_gen H hashLen hlen data hdata d hd i hs hv).imp_left fun ⟨_, h2, h3⟩ => by
    rwa [Nat.mod_eq_of_lt (Nat.lt_of_lt_of_le hi (h2 ▸ le_two_pow_depthFor data.length))] at h3

/-- Why `merkle_sound'` needs a bound on the index: for EVERY hash function, the honest proof of
leaf 0 of a two-leaf tree is also accepted for index 2 (and 2 is not a leaf index). -/
theorem merkle_sound_needs_index_bound (H : Bytes → Bytes) (hashLen : Nat) (a b : Bytes) :
    proofHash H a 2 (genProof H hashLen [a, b] 0) = root H hashLen [a, b]
    ∧ ¬ 2 < [a, b].length := by
  refine ⟨?_, Nat.lt_irrefl 2⟩
  rw [← (verify_iff H ..).mp (merkle_complete H hashLen [a, b] 0 (Nat.succ_pos 1))]
  refine proofHash_congr H _ _ ?_
  rw [length_genProof]
  exact (by decide : 2 % 2 ^ depthFor 2 = 0 % 2 ^ depthFor 2)

theorem hexDigit_toNat (n : UInt8) (h : n.toNat < 16) :
    (hexDigit n).toNat = if n.toNat < 10 then 48 + n.toNat else 87 + n.toNat := by
  unfold hexDigit
  by_cases h10 : n < 10
  · have : n.toNat < 10 := by simpa [UInt8.lt_iff_toNat_lt] using h10
    simp only [h10, this, if_true, UInt8.toNat_add]
    simp; omega
  · have : ¬ n.toNat < 10 := by simpa [UInt8.lt_iff_toNat_lt] using h10
    simp only [h10, this, if_false, UInt8.toNat_add]
    simp; omega

theorem hexDigit_inj {x y : UInt8} (hx : x.toNat < 16) (hy : y.toNat < 16) (h : hexDigit x = hexDigit y) :
    x.toNat = y.toNat := by
  have k := congrArg UInt8.toNat h
  rw [hexDigit_toNat x hx, hexDigit_toNat y hy] at k
  split at k <;> split at k <;> omega

theorem hexByte_inj (a b : UInt8) (h1 : hexDigit (a >>> 4) = hexDigit (b >>> 4))
    (h2 : hexDigit (a &&& 15) = hexDigit (b &&& 15)) : a = b := by
  have hi (c : UInt8) : (c >>> 4).toNat = c.toNat / 16 := by
    simp [UInt8.toNat_shiftRight, Nat.shiftRight_eq_div_pow]
  have lo (c : UInt8) : (c &&& 15).toNat = c.toNat % 16 := by
    rw [UInt8.toNat_and]; exact Nat.and_two_pow_sub_one_eq_mod _ 4
  have ha := a.toNat_lt
  have hb := b.toNat_lt
  have k1 := hexDigit_inj (by rw [hi]; omega) (by rw [hi]; omega) h1
  have k2 := hexDigit_inj (by rw [lo]; omega) (by rw [lo]; omega) h2
  rw [hi, hi] at k1
  rw [lo, lo] at k2
  -- quotient and remainder by 16 agree
  exact UInt8.toNat_inj.mp (by omega)

theorem hexBytes_injective : ∀ a b : Bytes, hexBytes a = hexBytes b → a = b
  | [], [], _ => rfl
  | [], _ :: _, h => nomatch h
  | _ :: _, [], h => nomatch h
  | x :: a, y :: b, h => by
      rw [hexBytes, hexBytes, List.cons.injEq, List.cons.injEq] at h
      rw [hexByte_inj x y h.1 h.2.1, hexBytes_injective a b h.2.2]

theorem leafPre_inj_same_index (i : Nat) (a b : Bytes) (h : leafPre i a = leafPre i b) : a = b :=
  hexBytes_injective a b (List.append_cancel_left h)

/-! `decBytes` goes through `String` and `ByteArray`; bring it back to lists so that concrete
values can be computed by the kernel. -/

theorem byteArray_toList_loop (bs : ByteArray) (i : Nat) (r : List UInt8) :
    ByteArray.toList.loop bs i r = r.reverse ++ bs.data.toList.drop i := by
  fun_induction ByteArray.toList.loop bs i r with
  | case1 i r hi ih =>
    have hi' : i < bs.data.toList.length := by rw [Array.length_toList, ByteArray.size_data]; exact hi
    rw [ih, List.reverse_cons, List.append_assoc, List.drop_eq_getElem_cons hi']
    simp [ByteArray.get!, getElem!_pos bs.data i (by simpa using hi')]
  | case2 i r hi =>
    rw [List.drop_of_length_le (by rw [Array.length_toList, ByteArray.size_data]; omega), List.append_nil]

theorem byteArray_toList (bs : ByteArray) : bs.toList = bs.data.toList :=
  byteArray_toList_loop bs 0 []

theorem decBytes_eq (n : Nat) :
    decBytes n = (Nat.toDigits 10 n).flatMap String.utf8EncodeChar := by
  unfold decBytes
  rw [byteArray_toList]
  simp [Nat.repr_eq_ofList_toDigits, List.utf8Encode, List.data_toByteArray]

theorem decBytes_1 : decBytes 1 = [49] := by rw [decBytes_eq]; decide +kernel
theorem decBytes_123 : decBytes 123 = [49, 50, 51] := by rw [decBytes_eq]; decide +kernel
theorem decBytes_101 : decBytes 101 = [49, 48, 49] := by rw [decBytes_eq]; decide +kernel

/-- where the decimals of `i` followed by the two hex digits of the item's first byte are the
decimals of `j`, the two leaf encodings agree: `%d%x` puts no separator between index and item -/
theorem leafPre_absorb {i j : Nat} {b : UInt8} (c : Bytes)
    (h : decBytes i ++ [hexDigit (b >>> 4), hexDigit (b &&& 15)] = decBytes j) :
    leafPre i (b :: c) = leafPre j c := by
  rw [leafPre, leafPre, hexBytes, ← h, List.append_assoc]
  rfl

/-- why `verifyProofUnfixed` is unsound: `"1" ++ "23" ++ hex c = "123" ++ hex c` -/
theorem leafPre_not_injective_across_indices (c : Bytes) :
    leafPre 1 (0x23 :: c) = leafPre 123 c :=
  leafPre_absorb c (by rw [decBytes_1, decBytes_123]; decide)

theorem leafPre_1_101 (c : Bytes) : leafPre 1 (0x01 :: c) = leafPre 101 c :=
  leafPre_absorb c (by rw [decBytes_1, decBytes_101]; decide)

theorem mapIdx_getD (f : Nat → Bytes → Bytes) (l : List Bytes) (i : Nat) (hi : i < l.length) :
    (l.mapIdx f).getD i [] = f i (l.getD i []) := by
  simp only [List.getD_eq_getElem?_getD]
  rw [List.getElem?_mapIdx, List.getElem?_eq_getElem hi]
  rfl

theorem fileRoot_complete (H S : Bytes → Bytes) (hashLen : Nat) (chunks : List Bytes) (i : Nat)
    (hi : i < chunks.length) :
    verify H (fileRoot H S hashLen chunks) (leafData S i (chunks.getD i [])) i
      (genProof H hashLen (chunks.mapIdx (fun j c => leafData S j c)) i) = true := by
  have h := merkle_complete H hashLen (chunks.mapIdx (fun j c => leafData S j c)) i
    (by rw [List.length_mapIdx]; exact hi)
  rwa [mapIdx_getD _ _ _ hi] at h

/-- an honest provider's proof for the challenged chunk is accepted -/
theorem honest_proof_accepted (H S : Bytes → Bytes) (hashLen : Nat) (chunks : List Bytes) (i : Nat)
    (hi : i < chunks.length) :
    verifyProof H S (fileRoot H S hashLen chunks) i (chunks.getD i []) i
      (genProof H hashLen (chunks.mapIdx (fun j c => leafData S j c)) i) = true := by
  simp only [verifyProof, decide_true, Bool.true_and]
  exact fileRoot_complete H S hashLen chunks i hi

/-- An accepted proof is a proof for the challenged chunk (or breaks one of the hashes).

The hypothesis `hc : c < chunks.length` is needed (`chunks ≠ []` is not enough): without it the
first disjunct can fail, for every `H`, `S` — see `verifyProof_needs_challenge_bound` below.  The
chain must therefore make sure that the challenged index is smaller than the number of chunks.

`hslen`, `hlt`: a leaf's data is an `S`-digest, shorter than an `H`-digest (SHA-256, 32 bytes, against
SHA3-512, 64 bytes); they supply `hdata` and `hd` of `merkle_sound_of_lt`. -/
theorem accepted_proof_is_for_challenged_chunk (H S : Bytes → Bytes) (hashLen sLen : Nat)
    (hlen : ∀ x, (H x).length = hashLen) (hslen : ∀ x, (S x).length = sLen) (hlt : sLen < hashLen)
    (chunks : List Bytes) (c : Nat) (hc : c < chunks.length) (item : Bytes) (idx : Nat)
    (hs : List Bytes)
    (hv : verifyProof H S (fileRoot H S hashLen chunks) c item idx hs = true) :
    (c < chunks.length ∧ item = chunks.getD c [])
    ∨ (∃ x y, x ≠ y ∧ H x = H y) ∨ (∃ x y, x ≠ y ∧ S x = S y)
    ∨ (∃ x, H x = zeroNode hashLen) := by
  simp only [verifyProof, Bool.and_eq_true, decide_eq_true_eq] at hv
  obtain ⟨rfl, hv⟩ := hv
  rw [verify_iff] at hv
  have hdata : ∀ x ∈ chunks.mapIdx (fun j c => leafData S j c), x.length < hashLen := by
    intro x hx
    obtain ⟨j, _, rfl⟩ := List.mem_mapIdx.mp hx
    rw [leafData, hslen]; exact hlt
  rcases merkle_sound_of_lt H hashLen hlen _ hdata (leafData S idx item) (by rw [leafData, hslen]; exact hlt) idx hs
      (by rw [List.length_mapIdx]; exact hc) hv with h | h | h
  · rw [mapIdx_getD _ _ _ hc] at h
    exact (eq_or_collision (F := S) (a := leafPre idx item) (b := leafPre idx (chunks.getD idx [])) h).elim
      (fun e => .inl ⟨hc, leafPre_inj_same_index idx _ _ e⟩)
      (fun coll => .inr (.inr (.inl coll)))
  · exact .inr (.inl h)
  · exact .inr (.inr (.inr h))

/-- Why `accepted_proof_is_for_challenged_chunk` needs `c < chunks.length`: for EVERY `H`, `S`, in a
file of 3 or 4 chunks whose chunk 1 is `0x01 :: item`, the (fixed) verifier accepts `item` for the
out-of-range challenge 101 with the honest path of chunk 1 — the path has length 2, the verifier
only looks at `101 % 4 = 1`, and `"101" ++ hex item = "1" ++ hex (0x01 :: item)`. -/
theorem verifyProof_needs_challenge_bound (H S : Bytes → Bytes) (hashLen : Nat)
    (chunks : List Bytes) (item : Bytes) (h3 : 2 < chunks.length) (h4 : chunks.length ≤ 4)
    (h1 : chunks.getD 1 [] = 0x01 :: item) :
    verifyProof H S (fileRoot H S hashLen chunks) 101 item 101
      (genProof H hashLen (chunks.mapIdx (fun j c => leafData S j c)) 1) = true
    ∧ ¬ 101 < chunks.length := by
  refine ⟨?_, by omega⟩
  have h := fileRoot_complete H S hashLen chunks 1 (by omega)
  rw [h1] at h
  simp only [verifyProof, decide_true, Bool.true_and]
  rw [verify_iff] at h ⊢
  rw [← h, leafData, leafData, leafPre_1_101]
  refine proofHash_congr H _ _ ?_
  rw [length_genProof, List.length_mapIdx]
  obtain e | e : chunks.length = 3 ∨ chunks.length = 4 := by omega
  all_goals rw [e]; decide

/-- Regression witness for the unfixed verifier, for EVERY `H`, `S` and every file with more than
123 chunks: challenged for chunk 1, the provider answers with the item `0x23 :: chunk₁₂₃` and the
honest path of leaf 123, and is accepted. -/
theorem verifyProofUnfixed_accepts_wrong_chunk (H S : Bytes → Bytes) (hashLen : Nat)
    (chunks : List Bytes) (h : 123 < chunks.length) :
    verifyProofUnfixed H S (fileRoot H S hashLen chunks) 1 (0x23 :: chunks.getD 123 []) 123
      (genProof H hashLen (chunks.mapIdx (fun j c => leafData S j c)) 123) = true := by
  simp only [verifyProofUnfixed, leafData, leafPre_not_injective_across_indices]
  exact fileRoot_complete H S hashLen chunks 123 h

/-- the fixed verifier rejects that answer (the proof's index is not the challenge) -/
theorem verifyProof_rejects_wrong_index (H S : Bytes → Bytes) (merkle item : Bytes)
    (c idx : Nat) (hs : List Bytes) (hne : idx ≠ c) :
    verifyProof H S merkle c item idx hs = false := by
  simp [verifyProof, hne]

end Canine.Storage.Merkle
