/-
Integer facts about the exact `sdk.Dec` operations of `Canine/Basic/Dec.lean`: `chopRound`
(banker's rounding of `Mul`/`Quo`), `Mul` by a whole number, `Truncate`, the quotient of two whole
numbers (`rawShare`) and what a prover is paid of a released amount (`payout`).  Core Lean only.
-/
import Canine.Basic.Dec
namespace Canine

theorem precision_pos : 0 < precision := by unfold precision; omega
theorem precision_ge_two : 2 ≤ precision := by unfold precision; omega

/-- `chopRoundNat` rounds the quotient down when the remainder is at most half a unit and up when it
is at least half a unit (at exactly half, whichever is even) -/
theorem chopRoundNat_cases (x : Int) :
    (chopRoundNat x = x / precision ∧ x % precision ≤ fivePrecision) ∨
    (chopRoundNat x = x / precision + 1 ∧ fivePrecision ≤ x % precision) := by
  unfold chopRoundNat
  show (ite _ _ _ = _ ∧ _) ∨ _
  by_cases h0 : x % precision = 0
  · rw [if_pos h0]; exact .inl ⟨rfl, h0 ▸ by decide⟩
  rw [if_neg h0]
  by_cases h1 : x % precision < fivePrecision
  · rw [if_pos h1]; exact .inl ⟨rfl, Int.le_of_lt h1⟩
  rw [if_neg h1]
  by_cases h2 : x % precision > fivePrecision
  · rw [if_pos h2]; exact .inr ⟨rfl, Int.le_of_lt h2⟩
  rw [if_neg h2]
  have e : x % precision = fivePrecision := Int.le_antisymm (Int.not_lt.mp h2) (Int.not_lt.mp h1)
  by_cases h3 : x / precision % 2 = 0
  · rw [if_pos h3]; exact .inl ⟨rfl, Int.le_of_eq e⟩
  · rw [if_neg h3]; exact .inr ⟨rfl, Int.le_of_eq e.symm⟩

theorem chopRoundNat_bounds (x : Int) :
    2 * chopRoundNat x * precision ≤ 2 * x + precision ∧ 2 * x - precision ≤ 2 * chopRoundNat x * precision := by
  have hx := Int.ediv_mul_add_emod x precision
  have h0 : 0 ≤ x % precision := Int.emod_nonneg _ (by decide)
  have h1 : x % precision < precision := Int.emod_lt_of_pos _ (by decide)
  have hc := chopRoundNat_cases x
  generalize x / precision = q at *
  generalize x % precision = r at *
  unfold precision fivePrecision at *
  rcases hc with ⟨e, h⟩ | ⟨e, h⟩
  · rw [e]; omega
  · rw [e]; omega

theorem chopRoundNat_nonneg (x : Int) (h : 0 ≤ x) : 0 ≤ chopRoundNat x := by
  have hb := (chopRoundNat_bounds x).2
  unfold precision at hb; omega

/-- banker's rounding is monotone: for `x < y` the two half-unit windows of `chopRoundNat_bounds`
cannot be a whole unit apart in the wrong order -/
theorem chopRoundNat_mono (x y : Int) (h : x ≤ y) : chopRoundNat x ≤ chopRoundNat y := by
  by_cases e : x = y
  · rw [e]; exact Int.le_refl _
  · have hx := (chopRoundNat_bounds x).1
    have hy := (chopRoundNat_bounds y).2
    unfold precision at hx hy; omega

theorem chopRound_of_nonneg (x : Int) (h : 0 ≤ x) : chopRound x = chopRoundNat x := by
  unfold chopRound; split
  · omega
  · rfl

theorem chopRound_nonneg (x : Int) (h : 0 ≤ x) : 0 ≤ chopRound x := by
  rw [chopRound_of_nonneg x h]; exact chopRoundNat_nonneg x h

theorem chopRound_mono_nonneg (x y : Int) (hx : 0 ≤ x) (h : x ≤ y) : chopRound x ≤ chopRound y := by
  rw [chopRound_of_nonneg x hx, chopRound_of_nonneg y (by omega)]
  exact chopRoundNat_mono x y h

theorem chopRoundNat_mul_precision (n : Int) : chopRoundNat (n * precision) = n := by
  have hb := chopRoundNat_bounds (n * precision)
  unfold precision at hb ⊢; omega

theorem chopRound_mul_precision (n : Int) : chopRound (n * precision) = n := by
  unfold chopRound; split
  · rw [← Int.neg_mul, chopRoundNat_mul_precision]; omega
  · exact chopRoundNat_mul_precision n

namespace Dec

theorem ext {a b : Dec} (h : a.raw = b.raw) : a = b := congrArg Dec.mk h

theorem mul_comm (a b : Dec) : Dec.mul a b = Dec.mul b a := by
  rw [Dec.mul, Dec.mul, Int.mul_comm]

theorem mul_ofInt_exact (a : Dec) (R : Int) : (Dec.mul a (Dec.ofInt R)).raw = a.raw * R := by
  unfold Dec.mul Dec.ofInt
  simp only
  rw [← Int.mul_assoc]
  exact chopRound_mul_precision _

theorem trunc_of_nonneg (a : Dec) (h : 0 ≤ a.raw) : Dec.trunc a = a.raw / precision := by
  unfold Dec.trunc chopTrunc tdiv
  have := precision_pos
  simp only [h, if_true, show (0:Int) ≤ precision by omega]

theorem trunc_bounds (a : Dec) (h : 0 ≤ a.raw) :
    Dec.trunc a * precision ≤ a.raw ∧ a.raw < Dec.trunc a * precision + precision := by
  rw [trunc_of_nonneg a h]
  unfold precision; omega

theorem trunc_sub_ofInt_of_le (x : Dec) (W : Int) (hx : 0 ≤ x.raw) (h : W * precision ≤ x.raw) :
    Dec.trunc (Dec.sub x (Dec.ofInt W)) = Dec.trunc x - W := by
  rw [trunc_of_nonneg x hx, trunc_of_nonneg (Dec.sub x (Dec.ofInt W)) (Int.sub_nonneg.mpr h)]
  show (x.raw - W * precision) / precision = x.raw / precision - W
  rw [Int.sub_eq_add_neg, ← Int.neg_mul, Int.add_mul_ediv_right _ _ (Int.ne_of_gt precision_pos),
    Int.sub_eq_add_neg]

theorem trunc_sub_ofInt (x : Dec) (W : Int) (hW : 0 ≤ W) (h : W * precision ≤ x.raw) :
    Dec.trunc (Dec.sub x (Dec.ofInt W)) = Dec.trunc x - W :=
  trunc_sub_ofInt_of_le x W (Int.le_trans (Int.mul_nonneg hW (Int.le_of_lt precision_pos)) h) h

end Dec

/-! ### pure integer facts (the scale `P` is abstract so that products stay symbolic) -/

theorem mul_le_of_le_tdiv {a k c : Int} (hk : 0 < k) (hc : 0 < c) (h : c ≤ Int.tdiv a k) : c * k ≤ a := by
  rw [← tdiv_eq] at h; unfold tdiv at h
  simp only [show (0:Int) ≤ k by omega, if_true] at h
  split at h
  · exact (Int.le_ediv_iff_mul_le hk).1 h
  · have : 0 ≤ (-a) / k := Int.ediv_nonneg (by omega) (by omega)
    omega

theorem tdiv1000_mono {a b : Int} (h : a ≤ b) : Int.tdiv a 1000 ≤ Int.tdiv b 1000 :=
  Int.tdiv_le_tdiv (by omega) h

/-- The model reads an instant in whole microseconds as `tdiv 1000` of its nanoseconds (for
`UnixMicro`).  1999 is the least gap that separates the two microseconds for either sign: every
nanosecond count in (-1000, 1000) truncates to 0. -/
theorem tdiv1000_strict {a b : Int} (h : a + 1999 ≤ b) : Int.tdiv a 1000 < Int.tdiv b 1000 := by
  rw [← tdiv_eq, ← tdiv_eq]; unfold tdiv
  simp only [show (0:Int) ≤ 1000 by omega, if_true]
  split <;> split <;> omega

/-- rounding `X = ⌊w·P²/T⌋` to the nearest multiple of `P`: `q·T` is within `T/2` (+ a sliver) of `w·P` -/
theorem round_div_bounds (P q X w T : Int) (hP : 0 < P) (hT : 0 < T)
    (h1 : 2 * q * P ≤ 2 * X + P) (h2 : 2 * X - P ≤ 2 * q * P)
    (h3 : X * T ≤ w * P * P) (h4 : w * P * P < X * T + T) :
    2 * (q * T) ≤ 2 * w * P + T ∧ (2 * w * P - T) * P - 2 * T < 2 * (q * T) * P := by
  have hT0 : (0:Int) ≤ T := by omega
  have f1 := Int.mul_le_mul_of_nonneg_right h1 hT0
  have f2 := Int.mul_le_mul_of_nonneg_right h2 hT0
  constructor
  · have : 2 * (q * T) * P ≤ (2 * w * P + T) * P := by
      clear h2 h4 f2; grind
    exact Int.le_of_mul_le_mul_right this hP
  · clear h1 h3 f1; grind

/-! Two floors of the same quantity.  With `q` the share `w/T` scaled by `P` and rounded (so that `q·T` is within
`T/2` and a sliver of `w·P`, as `round_div_bounds` gives it), `F = ⌊w·R/T⌋` the exact share of `R` and
`pay = ⌊q·R/P⌋` what is paid, `pay` and `F` differ by at most one as long as `R ≤ P`.  Both proofs assume
the contrary, multiply each bound by a non-negative factor so that all speak of `T·P·P` worth of units,
and add them up. -/

theorem floor_close_upper (P q w T R F pay : Int) (hP : 2 ≤ P) (hT : 0 < T) (hR0 : 0 ≤ R) (hR : R ≤ P)
    (hi : 2*(q*T)*P < (2*w*P+T)*P + 2*T)
    (hF : w*R < F*T + T)
    (hp : pay*P ≤ q*R) : pay ≤ F + 1 := by
  apply Classical.byContradiction
  intro hc
  have hc : F + 2 ≤ pay := by omega
  have hTP : (0:Int) ≤ T*P := by apply Int.mul_nonneg <;> omega
  have hPP : (0:Int) ≤ P*P := by apply Int.mul_nonneg <;> omega
  have s1 : (F+2)*P ≤ q*R := Int.le_trans (Int.mul_le_mul_of_nonneg_right hc (by omega)) hp
  have f1 : 2*(q*T)*P * R ≤ ((2*w*P+T)*P + 2*T - 1) * R := Int.mul_le_mul_of_nonneg_right (by omega) hR0
  have f2 : (F+2)*P * (T*P) ≤ q*R * (T*P) := Int.mul_le_mul_of_nonneg_right s1 hTP
  have f3 : T*P * R ≤ T*P * P := Int.mul_le_mul_of_nonneg_left hR hTP
  have f4 : w*R * (P*P) ≤ (F*T + T - 1) * (P*P) := Int.mul_le_mul_of_nonneg_right (by omega) hPP
  have f5 : T * R ≤ T * P := Int.mul_le_mul_of_nonneg_left hR (by omega)
  have f6 : T*P * 2 ≤ T*P * P := Int.mul_le_mul_of_nonneg_left hP hTP
  have f7 : 0 < P * P := by apply Int.mul_pos <;> omega
  clear hi hF hp hc s1 hR hP
  grind

theorem floor_close_lower (P q w T R F pay : Int) (hP : 2 ≤ P) (hT : 0 < T) (hR0 : 0 ≤ R) (hR : R ≤ P)
    (hi : (2*w*P-T)*P - 2*T < 2*(q*T)*P)
    (hF : F*T ≤ w*R)
    (hp : q*R < pay*P + P) : F - 1 ≤ pay := by
  apply Classical.byContradiction
  intro hc
  have hc : pay + 1 ≤ F - 1 := by omega
  have hTP : (0:Int) ≤ T*P := by apply Int.mul_nonneg <;> omega
  have hPP : (0:Int) ≤ P*P := by apply Int.mul_nonneg <;> omega
  have s1 : q*R ≤ (F-1)*P - 1 := by
    have : (pay + 1) * P ≤ (F - 1) * P := Int.mul_le_mul_of_nonneg_right hc (by omega)
    have e : (pay + 1) * P = pay * P + P := by rw [Int.add_mul]; omega
    omega
  have g1 : ((2*w*P-T)*P - 2*T + 1) * R ≤ 2*(q*T)*P * R := Int.mul_le_mul_of_nonneg_right (by omega) hR0
  have g2 : q*R * (T*P) ≤ ((F-1)*P - 1) * (T*P) := Int.mul_le_mul_of_nonneg_right s1 hTP
  have g3 : F*T * (P*P) ≤ w*R * (P*P) := Int.mul_le_mul_of_nonneg_right hF hPP
  have g4 : T*P * R ≤ T*P * P := Int.mul_le_mul_of_nonneg_left hR hTP
  have g5 : T * R ≤ T * P := Int.mul_le_mul_of_nonneg_left hR (by omega)
  have g6 : 0 < T * (P * P) := by apply Int.mul_pos; omega; apply Int.mul_pos <;> omega
  clear hi hF hp hc s1 hR hP
  grind

/-- raw value (units of 10^-18) of the share `w / T` as `sdk.Dec` computes it -/
def rawShare (T w : Int) : Int := chopRoundNat (w * precision * precision / T)

theorem quo_ofInt_eq (T w : Int) (hw : 0 ≤ w) (hT : 0 < T) :
    Dec.quo? (Dec.ofInt w) (Dec.ofInt T) = some ⟨rawShare T w⟩ := by
  have hp := precision_pos
  have h1 : T * precision ≠ 0 := Int.ne_of_gt (Int.mul_pos hT hp)
  have h2 : 0 ≤ w * precision * precision * precision :=
    Int.mul_nonneg (Int.mul_nonneg (Int.mul_nonneg hw (by omega)) (by omega)) (by omega)
  have h3 : 0 ≤ T * precision := Int.le_of_lt (Int.mul_pos hT hp)
  unfold Dec.quo? Dec.ofInt
  simp only [h1, if_false]
  unfold tdiv
  simp only [h2, h3, if_true]
  rw [Int.mul_ediv_mul_of_pos_left _ _ hp]
  rw [chopRound_of_nonneg _ (Int.ediv_nonneg (Int.mul_nonneg (Int.mul_nonneg hw (by omega)) (by omega)) (by omega))]
  rfl

theorem rawShare_nonneg (T w : Int) (hw : 0 ≤ w) (hT : 0 < T) : 0 ≤ rawShare T w := by
  have hp := precision_pos
  exact chopRoundNat_nonneg _ (Int.ediv_nonneg (Int.mul_nonneg (Int.mul_nonneg hw (by omega)) (by omega)) (by omega))

/-- the share's raw value times `T` is within `T/2` (plus a sliver on the low
side, from the inner truncated division) of `w·10^18` -/
theorem rawShare_bounds (T w : Int) (hT : 0 < T) :
    2 * (rawShare T w * T) ≤ 2 * w * precision + T ∧
    (2 * w * precision - T) * precision - 2 * T < 2 * (rawShare T w * T) * precision := by
  have hb := chopRoundNat_bounds (w * precision * precision / T)
  have h3 : w * precision * precision / T * T ≤ w * precision * precision := Int.ediv_mul_le _ (by omega)
  have h4 : w * precision * precision < w * precision * precision / T * T + T := by
    have h := Int.lt_ediv_add_one_mul_self (w * precision * precision) hT
    rw [Int.add_mul] at h; omega
  exact round_div_bounds precision _ _ w T precision_pos hT hb.1 hb.2 h3 h4

theorem rawShare_mono (T w1 w2 : Int) (hT : 0 < T) (h : w1 ≤ w2) : rawShare T w1 ≤ rawShare T w2 := by
  have hp := precision_pos
  apply chopRoundNat_mono
  apply Int.ediv_le_ediv hT
  apply Int.mul_le_mul_of_nonneg_right _ (by omega)
  apply Int.mul_le_mul_of_nonneg_right h (by omega)

theorem rawShare_self (T : Int) (hT : 0 < T) : rawShare T T = precision := by
  unfold rawShare
  have : T * precision * precision / T = precision * precision := by
    rw [Int.mul_assoc, Int.mul_comm, Int.mul_ediv_cancel _ (by omega)]
  rw [this]
  have := chopRound_mul_precision precision
  rwa [chopRound_of_nonneg _ (Int.mul_nonneg (Int.le_of_lt precision_pos) (Int.le_of_lt precision_pos))] at this

theorem rawShare_zero (T : Int) : rawShare T 0 = 0 := by
  unfold rawShare; simp; decide

theorem rawShare_le_one (T w : Int) (hT : 0 < T) (h : w ≤ T) : rawShare T w ≤ precision := by
  rw [← rawShare_self T hT]; exact rawShare_mono T w T hT h

/-- what one prover is paid of a released amount `R` for weight `w` out of `T` -/
def payout (T R w : Int) : Int :=
  Dec.trunc (Dec.mul ((Dec.quo? (Dec.ofInt w) (Dec.ofInt T)).getD Dec.zero) (Dec.ofInt R))

theorem payout_eq (T R w : Int) (hw : 0 ≤ w) (hT : 0 < T) (hR : 0 ≤ R) :
    payout T R w = rawShare T w * R / precision := by
  unfold payout
  rw [quo_ofInt_eq T w hw hT, Option.getD_some, Dec.trunc_of_nonneg, Dec.mul_ofInt_exact]
  rw [Dec.mul_ofInt_exact]
  exact Int.mul_nonneg (rawShare_nonneg T w hw hT) hR

theorem payout_bounds (T R w : Int) (hw : 0 ≤ w) (hT : 0 < T) (hR : 0 ≤ R) :
    payout T R w * precision ≤ rawShare T w * R ∧ rawShare T w * R < payout T R w * precision + precision := by
  rw [payout_eq T R w hw hT hR]
  have h := Int.lt_ediv_add_one_mul_self (rawShare T w * R) precision_pos
  rw [Int.add_mul, Int.one_mul] at h
  exact ⟨Int.ediv_mul_le _ (Int.ne_of_gt precision_pos), h⟩

theorem payout_nonneg (T R w : Int) (hw : 0 ≤ w) (hT : 0 < T) (hR : 0 ≤ R) : 0 ≤ payout T R w := by
  rw [payout_eq T R w hw hT hR]
  exact Int.ediv_nonneg (Int.mul_nonneg (rawShare_nonneg T w hw hT) hR) (Int.le_of_lt precision_pos)

/-- The payout is within one unit of the exact share `w·R/T` for a released amount `R ≤ 10^18`.  The share is
rounded by up to half a unit of `10^-18`; the bound on `R`, a side condition of the properties that use this, keeps
that error times `R` below one unit of the coin. -/
theorem payout_close (T R w : Int) (hw : 0 ≤ w) (hT : 0 < T) (hR0 : 0 ≤ R) (hR : R ≤ precision) :
    payout T R w ≤ w * R / T + 1 ∧ w * R / T - 1 ≤ payout T R w := by
  obtain ⟨b1, b2⟩ := rawShare_bounds T w hT
  obtain ⟨p1, p2⟩ := payout_bounds T R w hw hT hR0
  have hF1 : w * R / T * T ≤ w * R := Int.ediv_mul_le _ (by omega)
  have hF2 : w * R < w * R / T * T + T := by
    have h := Int.lt_ediv_add_one_mul_self (w * R) hT
    rw [Int.add_mul] at h; omega
  have hp := precision_pos
  constructor
  · refine floor_close_upper precision (rawShare T w) w T R _ _ precision_ge_two hT hR0 hR ?_ hF2 p1
    have := Int.mul_le_mul_of_nonneg_right b1 (show (0:Int) ≤ precision by omega)
    omega
  · exact floor_close_lower precision (rawShare T w) w T R _ _ precision_ge_two hT hR0 hR b2 hF1 p2

/-- summed over a list of weights: the payouts against the shares, and the shares against the weights with
half a `T` of rounding for each -/
theorem payout_sums (T R : Int) (hT : 0 < T) (hR : 0 ≤ R) : ∀ (ws : List Int), (∀ w ∈ ws, 0 ≤ w) →
    (ws.map (payout T R)).sum * precision ≤ (ws.map (rawShare T)).sum * R ∧
    2 * ((ws.map (rawShare T)).sum * T) ≤ 2 * ws.sum * precision + (ws.length : Int) * T
  | [], _ => by simp
  | w :: ws, h => by
    obtain ⟨i1, i2⟩ := payout_sums T R hT hR ws (fun x hx => h x (List.mem_cons_of_mem _ hx))
    obtain ⟨p1, _⟩ := payout_bounds T R w (h w (by simp)) hT hR
    obtain ⟨b1, _⟩ := rawShare_bounds T w hT
    simp only [List.map_cons, List.sum_cons, List.length_cons]
    constructor
    · rw [Int.add_mul, Int.add_mul]; omega
    · grind

/-- The payouts never add up to more than was released when the weights add up to at most `T` and
`length·R < 2·10^18`: each share is rounded up by at most half a unit of `10^-18`, so all of them together
overshoot `R` by less than `length·R / (2·10^18)`, which the side condition keeps below one unit. -/
theorem payout_sum_le (T R : Int) (ws : List Int) (hT : 0 < T) (hR : 0 ≤ R) (hws : ∀ w ∈ ws, 0 ≤ w)
    (hsum : ws.sum ≤ T) (hside : (ws.length : Int) * R < 2 * precision) :
    (ws.map (payout T R)).sum ≤ R := by
  obtain ⟨i1, i2⟩ := payout_sums T R hT hR ws hws
  generalize (ws.map (payout T R)).sum = S at *
  generalize (ws.map (rawShare T)).sum = Q at *
  generalize ws.sum = W at *
  generalize (ws.length : Int) = n at *
  have hp := precision_pos
  apply Classical.byContradiction; intro hc
  have hc : R + 1 ≤ S := by omega
  have hPT : (0:Int) ≤ precision * T := Int.mul_nonneg (by omega) (by omega)
  have a0 := Int.mul_le_mul_of_nonneg_right hc hPT
  have a1 := Int.mul_le_mul_of_nonneg_right i1 (show (0:Int) ≤ T by omega)
  have a2 := Int.mul_le_mul_of_nonneg_right i2 hR
  have a3 := Int.mul_le_mul_of_nonneg_right hsum (Int.mul_nonneg (show (0:Int) ≤ precision by omega) hR)
  have a4 := Int.mul_le_mul_of_nonneg_right (show n * R + 1 ≤ 2 * precision by omega) (show (0:Int) ≤ T by omega)
  have a5 : 0 < precision * T := Int.mul_pos hp hT
  clear i1 i2 hc hsum hside
  generalize precision = P at *
  grind

/-- the amount `payProver` sends of a released coin `R`, once the share exists, is `payout` -/
theorem trunc_share_eq_payout {total w : Int} {share : Dec}
    (hq : Dec.quo? (Dec.ofInt w) (Dec.ofInt total) = some share) (R : Int) :
    Dec.trunc (Dec.mul share (Dec.ofInt R)) = payout total R w := by
  unfold payout; rw [hq]; rfl

end Canine
