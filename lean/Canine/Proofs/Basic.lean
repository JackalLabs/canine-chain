/-
Invariant rules for the folds the models are written with (`List.foldl` for the pure loops,
`List.foldlM` in `Except` for the loops that can panic) and for the histories of delivered messages,
and facts about lists.  Core Lean only.
-/
namespace Canine

theorem foldlM_cons_ok {α β ε : Type} {f : β → α → Except ε β} {a : α} {l : List α} {b b' : β}
    (h : (a :: l).foldlM f b = .ok b') : ∃ b1, f b a = .ok b1 ∧ l.foldlM f b1 = .ok b' := by
  rw [List.foldlM_cons] at h
  cases hf : f b a with
  | error e => rw [hf] at h; cases h
  | ok b1 => rw [hf] at h; exact ⟨b1, rfl, h⟩

theorem foldlM_except_inv_mem {α β ε : Type} (P : β → Prop) (f : β → α → Except ε β)
    (l : List α) (hf : ∀ b a b', a ∈ l → P b → f b a = .ok b' → P b') :
    ∀ (b b' : β), P b → l.foldlM f b = .ok b' → P b' := by
  induction l with
  | nil =>
    intro b b' hb h
    cases h; exact hb
  | cons a t ih =>
    intro b b' hb h
    obtain ⟨b1, hfa, h⟩ := foldlM_cons_ok h
    exact ih (fun b a' b' ha => hf b a' b' (List.mem_cons_of_mem _ ha)) b1 b'
      (hf b a b1 List.mem_cons_self hb hfa) h

theorem foldlM_except_inv {α β ε : Type} (P : β → Prop) (f : β → α → Except ε β)
    (hf : ∀ b a b', P b → f b a = .ok b' → P b') (l : List α) (b b' : β) :
    P b → l.foldlM f b = .ok b' → P b' :=
  foldlM_except_inv_mem P f l (fun b a b' _ => hf b a b') b b'

/-- A fold in `Except` succeeds when every step does (`P` may depend on what is left of the list). -/
theorem foldlM_except_ok {α β ε : Type} (P : List α → β → Prop) (f : β → α → Except ε β)
    (hf : ∀ a rest b, P (a :: rest) b → ∃ b', f b a = .ok b' ∧ P rest b') :
    ∀ (l : List α) (b : β), P l b → ∃ b', l.foldlM f b = .ok b' ∧ P [] b'
  | [], b, hb => ⟨b, rfl, hb⟩
  | a :: l, b, hb => by
    obtain ⟨b1, h1, hp⟩ := hf a l b hb
    obtain ⟨b2, h2, hp2⟩ := foldlM_except_ok P f hf l b1 hp
    refine ⟨b2, ?_, hp2⟩
    simp only [List.foldlM_cons, bind, Except.bind, h1]
    exact h2

theorem foldl_inv_mem {α β : Type} (P : β → Prop) (f : β → α → β) (l : List α)
    (hf : ∀ b a, a ∈ l → P b → P (f b a)) : ∀ b, P b → P (l.foldl f b) := by
  induction l with
  | nil => intro b hp; exact hp
  | cons a t ih =>
    intro b hp
    exact ih (fun b' a' ha' => hf b' a' (List.mem_cons_of_mem _ ha')) _ (hf b a List.mem_cons_self hp)

theorem foldl_inv {α β : Type} (P : β → Prop) (f : β → α → β) (hf : ∀ b a, P b → P (f b a))
    (l : List α) (b : β) : P b → P (l.foldl f b) :=
  foldl_inv_mem P f l (fun b a _ => hf b a) b

/-- A failed message commits nothing (`stepT` is `(step …).getD s` in Rns, Notif, Filetree and
Storage): what holds before and after every successful step holds after the total step. -/
theorem getD_inv {σ : Type} {P : σ → Prop} {s : σ} {o : Option σ} (hs : P s) (h : ∀ s', o = some s' → P s') :
    P (o.getD s) := by
  cases o with
  | none => exact hs
  | some s' => exact h s' rfl

/-- What every delivered message of a history preserves holds after it, when a failed message commits
nothing.  `run` is any function with the two equations of that fold (the history runners of the
modules are written by recursion on the list, so both hold by `rfl`). -/
theorem run_inv_mem {σ α : Type} {P : σ → Prop} {step : σ → α → Option σ} {run : σ → List α → σ}
    (hnil : ∀ s, run s [] = s) (hcons : ∀ s a l, run s (a :: l) = run ((step s a).getD s) l) :
    ∀ (l : List α), (∀ a ∈ l, ∀ s s', P s → step s a = some s' → P s') → ∀ s, P s → P (run s l)
  | [], _, s, h => by rw [hnil]; exact h
  | a :: l, hstep, s, h => by
    rw [hcons]
    exact run_inv_mem hnil hcons l (fun a' ha' => hstep a' (List.mem_cons_of_mem _ ha')) _
      (getD_inv h (hstep a List.mem_cons_self s · h))

theorem run_inv {σ α : Type} {P : σ → Prop} {step : σ → α → Option σ} {run : σ → List α → σ}
    (hnil : ∀ s, run s [] = s) (hcons : ∀ s a l, run s (a :: l) = run ((step s a).getD s) l)
    (hstep : ∀ s a s', P s → step s a = some s' → P s') (l : List α) (s : σ) : P s → P (run s l) :=
  run_inv_mem hnil hcons l (fun a _ s s' => hstep s a s') s

theorem eq_nil_or_snoc {α : Type} (l : List α) : l = [] ∨ ∃ init c, l = init ++ [c] :=
  (List.eq_nil_or_concat l).imp_right fun ⟨i, c, h⟩ => ⟨i, c, h.trans List.concat_eq_append⟩

theorem nodup_of_map {α β : Type} (f : α → β) {l : List α} (h : (l.map f).Nodup) : l.Nodup :=
  List.Pairwise.of_map f (fun _ _ hne e => hne (congrArg f e)) h

/-- a '/'-free field is read off uniquely from the left (the raw store keys are '/'-separated) -/
theorem prefix_unique : ∀ (a a' r r' : List Char), '/' ∉ a → '/' ∉ a' →
    a ++ '/' :: r = a' ++ '/' :: r' → a = a' ∧ r = r'
  | [], [], _, _, _, _, h => ⟨rfl, (List.cons.inj h).2⟩
  | [], _ :: _, _, _, _, h2, h => absurd List.mem_cons_self ((List.cons.inj h).1 ▸ h2)
  | _ :: _, [], _, _, h1, _, h => absurd List.mem_cons_self ((List.cons.inj h).1 ▸ h1)
  | c :: cs, c' :: cs', r, r', h1, h2, h =>
    have ih := prefix_unique cs cs' r r' (fun m => h1 (List.mem_cons_of_mem _ m))
      (fun m => h2 (List.mem_cons_of_mem _ m)) (List.cons.inj h).2
    ⟨by rw [(List.cons.inj h).1, ih.1], ih.2⟩

theorem sum_map_zero {α : Type} (l : List α) : (l.map (fun _ => (0 : Int))).sum = 0 := by
  rw [List.map_const', List.sum_replicate_int, Int.mul_zero]

theorem sum_map_add {α : Type} (f g : α → Int) : ∀ (l : List α),
    (l.map (fun a => f a + g a)).sum = (l.map f).sum + (l.map g).sum
  | [] => by simp
  | _ :: l => by simp only [List.map_cons, List.sum_cons, sum_map_add f g l]; omega

theorem sum_map_le {α : Type} (f g : α → Int) : ∀ (l : List α), (∀ x ∈ l, f x ≤ g x) →
    (l.map f).sum ≤ (l.map g).sum
  | [], _ => Int.le_refl _
  | x :: l, h => by
    have := sum_map_le f g l (fun y hy => h y (List.mem_cons_of_mem _ hy))
    have := h x List.mem_cons_self
    simp only [List.map_cons, List.sum_cons]; omega

theorem sum_map_nonneg {α : Type} (f : α → Int) (l : List α) (h : ∀ x ∈ l, 0 ≤ f x) :
    0 ≤ (l.map f).sum := by
  have := sum_map_le (fun _ => 0) f l h
  rwa [sum_map_zero] at this

theorem ite_nonneg {p : Prop} [Decidable p] {x : Int} (h : 0 ≤ x) : 0 ≤ if p then x else 0 := by
  split
  · exact h
  · exact Int.le_refl _

theorem sum_map_eq_zero {α : Type} (f : α → Int) (l : List α) (h : ∀ x ∈ l, f x = 0) :
    (l.map f).sum = 0 := by
  rw [List.map_congr_left h, sum_map_zero]

theorem sum_map_sublist {α : Type} (f : α → Int) {l₁ l₂ : List α} (h : l₁.Sublist l₂) :
    (∀ x ∈ l₂, 0 ≤ f x) → (l₁.map f).sum ≤ (l₂.map f).sum := by
  induction h with
  | slnil => intro _; exact Int.le_refl _
  | cons a _ ih =>
    intro hn
    have := ih (fun e he => hn e (List.mem_cons_of_mem _ he))
    have := hn a List.mem_cons_self
    simp only [List.map_cons, List.sum_cons]; omega
  | cons_cons a _ ih =>
    intro hn
    have := ih (fun e he => hn e (List.mem_cons_of_mem _ he))
    simp only [List.map_cons, List.sum_cons]; omega

theorem sum_ite_key {α β : Type} [DecidableEq β] (key : α → β) (g : α → Int) {a : α} : ∀ (l : List α),
    (l.map key).Nodup → a ∈ l → (l.map (fun x => if key a = key x then g x else 0)).sum = g a
  | [], _, hm => by simp at hm
  | b :: l, hnd, hm => by
    obtain ⟨hb, hnd'⟩ := List.nodup_cons.mp (show (key b :: l.map key).Nodup from hnd)
    simp only [List.map_cons, List.sum_cons]
    rcases List.mem_cons.mp hm with e | e
    · subst e
      -- no later entry has the key of `a`
      have hrest : ∀ x ∈ l, (if key a = key x then g x else 0) = 0 :=
        fun x hx => if_neg (fun (e : key a = key x) => hb (e ▸ List.mem_map_of_mem hx))
      rw [if_pos rfl, sum_map_eq_zero _ l hrest]
      omega
    · rw [if_neg (fun (e' : key a = key b) => hb (e' ▸ List.mem_map_of_mem e)), sum_ite_key key g l hnd' e]
      omega

theorem perm_sum_int {l1 l2 : List Int} (h : l1.Perm l2) : l1.sum = l2.sum := by
  induction h with
  | nil => rfl
  | cons x _ ih => simp [ih]
  | swap x y l => simp only [List.sum_cons]; omega
  | trans _ _ ih1 ih2 => exact ih1.trans ih2

theorem eq_sum_map {α : Type} {F : List α → Int} {g : α → Int} (h0 : F [] = 0)
    (hc : ∀ e l, F (e :: l) = g e + F l) : ∀ l, F l = (l.map g).sum
  | [] => h0
  | e :: l => by rw [hc, eq_sum_map h0 hc l]; rfl

theorem sum_indicator {α : Type} [DecidableEq α] (x : α) (v : Int) (l : List α) (hnd : l.Nodup) :
    (l.map (fun a => if x = a then v else 0)).sum = if x ∈ l then v else 0 := by
  split
  · next h => exact sum_ite_key id (fun _ => v) l (by rwa [List.map_id]) h
  · next h => exact sum_map_eq_zero _ l fun a ha => if_neg fun (e : x = a) => h (e ▸ ha)

theorem sum_map_add_sub {α : Type} (f g k : α → Int) : ∀ (l : List α),
    (l.map (fun a => f a + g a - k a)).sum = (l.map f).sum + (l.map g).sum - (l.map k).sum
  | [] => by simp
  | _ :: l => by simp only [List.map_cons, List.sum_cons, sum_map_add_sub f g k l]; omega

theorem sum_map_flatMap {α β : Type} (f : α → List β) (g : β → Int) : ∀ (l : List α),
    ((l.flatMap f).map g).sum = (l.map (fun a => ((f a).map g).sum)).sum
  | [] => rfl
  | a :: l => by
    rw [List.flatMap_cons, List.map_append, List.sum_append, sum_map_flatMap f g l, List.map_cons, List.sum_cons]

/-- Induction along a left fold where `P done b` speaks of the elements handled so far and the
accumulator; a step may use where its element stands in the list. -/
theorem foldl_split_ind {α β : Type} (f : β → α → β) (l : List α) (P : List α → β → Prop)
    (hstep : ∀ done a rest b, l = done ++ a :: rest → P done b → P (done ++ [a]) (f b a)) :
    ∀ (rest done : List α) (b : β), l = done ++ rest → P done b → P l (rest.foldl f b)
  | [], done, b, hl, hb => by rw [hl, List.append_nil]; exact hb
  | a :: rest, done, b, hl, hb =>
    foldl_split_ind f l P hstep rest (done ++ [a]) (f b a) (by rw [hl, List.append_assoc]; rfl)
      (hstep done a rest b hl hb)

theorem not_mem_of_nodup_split {α : Type} {l done rest : List α} {a : α} (hnd : l.Nodup)
    (hl : l = done ++ a :: rest) : a ∉ done := by
  rw [hl] at hnd
  exact fun hm => (List.nodup_append.mp hnd).2.2 a hm a (by simp) rfl

end Canine
