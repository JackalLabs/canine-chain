/-
What the paying messages (C04) and the collateral escrow (C15) share: a whole amount times a
percentage in exact decimals is the truncated quotient by 100; conservation of a total over a
set of accounts; the relations "no money moved" (`SameMoney`) and "same configuration" (`SameCfg`)
with the handlers that satisfy them; the shares of a purchase as percentages.  Core Lean only.
-/
import Canine.Proofs.Block
namespace Canine.Storage
open Bank

theorem quoInt_ofInt_100 (r : Int) : (Dec.quoInt (Dec.ofInt r) 100).raw = r * 10000000000000000 := by
  unfold Dec.quoInt Dec.ofInt
  rw [tdiv_eq, show r * precision = r * 10000000000000000 * 100 by unfold precision; omega]
  exact Int.mul_tdiv_cancel _ (by omega)

theorem trunc_mul_pct_tdiv (T r : Int) :
    Dec.trunc (Dec.mul (Dec.ofInt T) (Dec.quoInt (Dec.ofInt r) 100)) = Int.tdiv (T * r) 100 := by
  unfold Dec.trunc chopTrunc
  rw [Dec.mul_comm, Dec.mul_ofInt_exact, quoInt_ofInt_100, Int.mul_comm, ← Int.mul_assoc, tdiv_eq]
  exact Int.mul_tdiv_mul_of_pos_left (T * r) 100 (by omega)

/-- A transfer changes the total held by a duplicate-free set of accounts only by what crosses
its boundary; in particular a transfer between two members conserves the total. -/
theorem total_send {src dst : String} {cs : Coins} {b b' : Bank} (h : send b src dst cs = some b')
    (accts : List String) (hnd : accts.Nodup) (d : String) :
    total b' accts d = total b accts d + (if dst ∈ accts then amt d cs else 0)
      - (if src ∈ accts then amt d cs else 0) := by
  unfold total
  have e : (fun a => bal b' a d) = (fun a => bal b a d + (if dst = a then amt d cs else 0)
      - (if src = a then amt d cs else 0)) := by
    funext a; exact bal_send h a d
  rw [e, sum_map_add_sub (fun a => bal b a d), sum_indicator dst _ accts hnd, sum_indicator src _ accts hnd]

theorem amt_append (d : String) : ∀ (a b : Coins), amt d (a ++ b) = amt d a + amt d b
  | [], b => by simp [amt]
  | (d', x) :: a, b => by
    have := amt_append d a b
    simp only [List.cons_append, amt, this]; omega

theorem amt_addCoins (d : String) (a b : Coins) : amt d (addCoins a b) = amt d a + amt d b := by
  unfold addCoins
  split
  · simp [amt]
  · simp [amt]
  · rename_i d1 x d2 y
    split
    · rename_i e; subst e; simp only [amt]; split <;> omega
    · split <;> simp only [amt] <;> omega
  · exact amt_append d a b

/-- no money moved.  `prov` is there for `CollInv.provided` (Proofs/Collateral.lean): a collateral
record needs its provider to stay -/
structure SameMoney (s s' : State) : Prop where
  bank : s'.bank = s.bank
  coll : s'.collateral = s.collateral
  gauges : s'.gauges = s.gauges
  params : s'.params = s.params
  macc : s'.moduleAcc = s.moduleAcc
  cacc : s'.collateralAcc = s.collateralAcc
  pacc : s'.polAcc = s.polAcc
  facc : s'.feeAcc = s.feeAcc
  blk : s'.blocked = s.blocked
  prov : ∀ a, (AMap.get s.providers a).isSome → (AMap.get s'.providers a).isSome

theorem SameMoney.refl (s : State) : SameMoney s s :=
  ⟨rfl, rfl, rfl, rfl, rfl, rfl, rfl, rfl, rfl, fun _ h => h⟩

theorem SameMoney.trans {s s1 s2 : State} (h1 : SameMoney s s1) (h2 : SameMoney s1 s2) : SameMoney s s2 :=
  ⟨h2.bank.trans h1.bank, h2.coll.trans h1.coll, h2.gauges.trans h1.gauges, h2.params.trans h1.params,
   h2.macc.trans h1.macc, h2.cacc.trans h1.cacc, h2.pacc.trans h1.pacc, h2.facc.trans h1.facc,
   h2.blk.trans h1.blk, fun a h => h2.prov a (h1.prov a h)⟩

theorem SameMoney.of_stores (s : State) {files files2 : AMap FKey File} {proofs : AMap PKey Proof}
    {payinfo : AMap String PayInfo} {attests reports : AMap PKey Form} {providers : AMap String Provider}
    (hp : ∀ a, (AMap.get s.providers a).isSome → (AMap.get providers a).isSome) :
    SameMoney s { s with files := files, files2 := files2, proofs := proofs, payinfo := payinfo,
                         attests := attests, reports := reports, providers := providers } :=
  ⟨rfl, rfl, rfl, rfl, rfl, rfl, rfl, rfl, rfl, hp⟩

theorem sameMoney_removeFile (s : State) (k : FKey) : SameMoney s (removeFile s k) := by
  rw [removeFile_writes]; exact .of_stores s fun _ h => h

theorem sameMoney_burnContract (s : State) (p : String) : SameMoney s (burnContract s p) := by
  rw [burnContract_writes]; exact .of_stores s fun a h => by rw [burnContract_providers, Option.isSome_map]; exact h

/-- `SameMoney` without ledger and gauges -/
structure SameCfg (s s' : State) : Prop where
  coll : s'.collateral = s.collateral
  params : s'.params = s.params
  macc : s'.moduleAcc = s.moduleAcc
  cacc : s'.collateralAcc = s.collateralAcc
  pacc : s'.polAcc = s.polAcc
  facc : s'.feeAcc = s.feeAcc
  blk : s'.blocked = s.blocked
  prov : ∀ a, (AMap.get s.providers a).isSome → (AMap.get s'.providers a).isSome

theorem SameMoney.cfg {s s' : State} (h : SameMoney s s') : SameCfg s s' :=
  ⟨h.coll, h.params, h.macc, h.cacc, h.pacc, h.facc, h.blk, h.prov⟩

theorem SameCfg.refl (s : State) : SameCfg s s := (SameMoney.refl s).cfg

theorem SameCfg.trans {s s1 s2 : State} (h1 : SameCfg s s1) (h2 : SameCfg s1 s2) : SameCfg s s2 :=
  ⟨h2.coll.trans h1.coll, h2.params.trans h1.params,
   h2.macc.trans h1.macc, h2.cacc.trans h1.cacc, h2.pacc.trans h1.pacc, h2.facc.trans h1.facc,
   h2.blk.trans h1.blk, fun a h => h2.prov a (h1.prov a h)⟩

theorem postFile_plan_sameMoney {s s' : State} {h now : Int} {creator merkle : String} {fs mp ex pt : Int}
    {note : String} {nv : Bool} {jp : Dec} {gid gacc : String}
    (hs : postFile s h now creator merkle fs mp ex pt note nv jp gid gacc = some s') (hex : ¬ ex > 0) :
    SameMoney s s' := by
  obtain ⟨-, -, -, -, ⟨h0, -⟩ | ⟨-, pi, -, -, -, rfl⟩⟩ := postFile_spec hs
  · exact absurd h0 hex
  · exact (sameMoney_removeFile s (merkle, creator, h)).trans (.of_stores _ fun _ h => h)

/-- the two kinds of purchase: a distinct referrer is named and is the referral target, or none
is and the referral share goes to the fee pool -/
theorem referral_cases (s : State) (creator : String) (referral : Option String) :
    (∃ r, referral = some r ∧ r ≠ creator ∧ buyReferred creator referral = true ∧
      refTarget s creator referral = r) ∨
    ((∀ r, referral = some r → r = creator) ∧ buyReferred creator referral = false ∧
      refTarget s creator referral = s.feeAcc) := by
  cases referral with
  | none => exact Or.inr ⟨fun _ h => (nomatch h), rfl, rfl⟩
  | some r =>
    by_cases hr : r = creator
    · exact Or.inr ⟨fun _ h => Option.some.inj h ▸ hr, by simp [buyReferred, hr], by simp [refTarget, hr]⟩
    · exact Or.inl ⟨r, rfl, hr, by simp [buyReferred, hr], by simp [refTarget, hr]⟩

/-- percentage points the referral discount takes off the liquidity share: 5 for a purchase of more
than a year, 10 otherwise (msg_server_buy_storage.go, `if referred`) -/
def discountPts (referred long : Bool) : Int := if referred then (if long then 5 else 10) else 0

theorem buyPol_pct (p : Params) (referred long : Bool) :
    buyPol p referred long = Dec.quoInt (Dec.ofInt (p.polRatio - discountPts referred long)) 100 := by
  apply Dec.ext
  unfold buyPol discountPts
  cases referred <;> cases long <;>
    simp only [if_true, if_false, Bool.false_eq_true, Dec.sub, quoInt_ofInt_100, dec0_05, dec0_1] <;> omega

theorem buyDiscount_pct (referred long : Bool) :
    buyDiscount referred long = Dec.quoInt (Dec.ofInt (discountPts referred long)) 100 := by
  unfold buyDiscount discountPts
  cases referred
  · exact Dec.ext (quoInt_ofInt_100 0).symm
  · cases long <;> rfl

/-- the provider share is `100 − referralCommission − polRatio` percent whether or not the purchase
is referred: the discount taken off the liquidity share is subtracted again here, so it cancels -/
theorem buySpr_pct (p : Params) (referred long : Bool) :
    buySpr p referred long = Dec.quoInt (Dec.ofInt (100 - p.referralCommission - p.polRatio)) 100 := by
  apply Dec.ext
  unfold buySpr refDecOf
  simp only [Dec.sub, buyPol_pct, buyDiscount_pct, quoInt_ofInt_100]
  unfold Dec.one Dec.ofInt precision
  simp only
  omega

theorem postSpr_pct (p : Params) :
    postSpr p = Dec.quoInt (Dec.ofInt (100 - p.referralCommission - p.polRatio)) 100 := by
  apply Dec.ext
  unfold postSpr
  simp only [Dec.sub, quoInt_ofInt_100]
  unfold Dec.one Dec.ofInt precision
  simp only
  omega

end Canine.Storage
