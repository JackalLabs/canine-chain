/-
What a successful x/filetree message found and what it wrote: one equivalence per handler, and the
relation `Step` that keeps of each access-list message only what authorisation, frame and store
invariants need.
-/
import Canine.Filetree.Model
namespace Canine.Filetree

variable (H : String → String) {s s' : State}

theorem handle_of_step {op : Op} (h : step H s op = some s') : handle H s op = some s' := by
  unfold step at h
  split at h
  · exact h
  · exact nomatch h

theorem postFile_eq_some {c acc hp hc ct : String} {v e : Acl} {tr : String} :
    postFile H s c acc hp hc ct v e tr = some s' ↔
      ∃ parent, AMap.get s.files (hp, makeOwnerAddress H hp acc) = some parent ∧
        hasEditAccess H parent c = some true ∧
        { s with files := AMap.set s.files (addToMerkleS H hp hc, makeOwnerAddress H (addToMerkleS H hp hc) acc)
                            { address := addToMerkleS H hp hc, owner := makeOwnerAddress H (addToMerkleS H hp hc) acc,
                              contents := ct, viewers := v, editors := e, tracking := tr } } = s' := by
  simp only [postFile, bind, Option.bind_eq_some_iff, req_eq_some, Option.some.injEq]
  exact ⟨fun ⟨p, hp, _, hok, _, rfl, hs⟩ => ⟨p, hp, hok, hs⟩, fun ⟨p, hp, hok, hs⟩ => ⟨p, hp, _, hok, (), rfl, hs⟩⟩

theorem deleteFile_eq_some {c hp acc : String} :
    deleteFile H s c hp acc = some s' ↔
      ∃ f, AMap.get s.files (hp, makeOwnerAddress H hp acc) = some f ∧ isOwner H f c = true ∧
        { s with files := AMap.erase s.files (hp, makeOwnerAddress H hp acc) } = s' := by
  simp only [deleteFile, bind, Option.bind_eq_some_iff, req_eq_some, Option.some.injEq, exists_const]

theorem changeOwner_eq_some {c a fo no : String} :
    changeOwner H s c a fo no = some s' ↔
      ∃ f, AMap.get s.files (a, makeOwnerAddress H a fo) = some f ∧ isOwner H f c = true ∧
        AMap.contains s.files (a, makeOwnerAddress H a no) = false ∧
        { s with files := AMap.erase (AMap.set s.files (f.address, makeOwnerAddress H a no)
                                        { f with owner := makeOwnerAddress H a no }) (a, makeOwnerAddress H a fo) } = s' := by
  simp only [changeOwner, bind, Option.bind_eq_some_iff, req_eq_some, Option.some.injEq, exists_const]

theorem addViewers_eq_some {c a fo : String} {ids keys : List String} :
    addViewers H s c a fo ids keys = some s' ↔
      ∃ f, AMap.get s.files (a, fo) = some f ∧ isOwner H f c = true ∧
        ∃ m, aclMap f.viewers = some m ∧ (f.viewers ≠ .null ∨ ids = []) ∧
        ∃ m', addIds m ids keys = some m' ∧
        { s with files := AMap.set s.files (f.address, f.owner) { f with viewers := .map m' } } = s' := by
  simp only [addViewers, bind, Option.bind_eq_some_iff, req_eq_some, Option.some.injEq, exists_const]

theorem removeViewers_eq_some {c a fo : String} {ids : List String} :
    removeViewers H s c a fo ids = some s' ↔
      ∃ f, AMap.get s.files (a, fo) = some f ∧ isOwner H f c = true ∧
        ∃ m, aclMap f.viewers = some m ∧
        { s with files := AMap.set s.files (f.address, f.owner) { f with viewers := aclRemove f.viewers m ids } } = s' := by
  simp only [removeViewers, bind, Option.bind_eq_some_iff, req_eq_some, Option.some.injEq, exists_const]

theorem resetViewers_eq_some {c a fo : String} :
    resetViewers H s c a fo = some s' ↔
      ∃ f, AMap.get s.files (a, fo) = some f ∧ isOwner H f c = true ∧
        ∃ m, aclMap f.viewers = some m ∧
        { s with files := AMap.set s.files (f.address, f.owner)
                            { f with viewers := .map [(makeViewerAddress H f.tracking c,
                                                       (AMap.get m (makeViewerAddress H f.tracking c)).getD "")] } } = s' := by
  simp only [resetViewers, bind, Option.bind_eq_some_iff, req_eq_some, Option.some.injEq, exists_const]

theorem addEditors_eq_some {c a fo : String} {ids keys : List String} :
    addEditors H s c a fo ids keys = some s' ↔
      ∃ f, AMap.get s.files (a, fo) = some f ∧ isOwner H f c = true ∧
        ∃ m, aclMap f.editors = some m ∧ (f.editors ≠ .null ∨ ids = []) ∧
        ∃ m', addIds m ids keys = some m' ∧
        { s with files := AMap.set s.files (f.address, f.owner) { f with editors := .map m' } } = s' := by
  simp only [addEditors, bind, Option.bind_eq_some_iff, req_eq_some, Option.some.injEq, exists_const]

theorem removeEditors_eq_some {c a fo : String} {ids : List String} :
    removeEditors H s c a fo ids = some s' ↔
      ∃ f, AMap.get s.files (a, fo) = some f ∧ isOwner H f c = true ∧
        ∃ m, aclMap f.editors = some m ∧
        { s with files := AMap.set s.files (f.address, f.owner) { f with editors := aclRemove f.editors m ids } } = s' := by
  simp only [removeEditors, bind, Option.bind_eq_some_iff, req_eq_some, Option.some.injEq, exists_const]

theorem resetEditors_eq_some {c a fo : String} :
    resetEditors H s c a fo = some s' ↔
      ∃ f, AMap.get s.files (a, fo) = some f ∧ isOwner H f c = true ∧
        ∃ m, aclMap f.editors = some m ∧
        { s with files := AMap.set s.files (f.address, f.owner)
                            { f with editors := .map [(makeEditorAddress H f.tracking c,
                                                       (AMap.get m (makeEditorAddress H f.tracking c)).getD "")] } } = s' := by
  simp only [resetEditors, bind, Option.bind_eq_some_iff, req_eq_some, Option.some.injEq, exists_const]

theorem aclGet_of_aclMap {a : Acl} {m : AMap String String} (h : aclMap a = some m) (id : String) :
    aclGet a id = AMap.get m id := by
  simp only [aclGet, h, Option.bind_some]

theorem addIds_other : ∀ (ids keys : List String) (m m' : AMap String String),
    addIds m ids keys = some m' → ∀ id, id ∉ ids → AMap.get m' id = AMap.get m id
  | [], _, m, m', h, id, _ => by cases h; rfl
  | _ :: _, [], m, m', h, _, _ => nomatch h
  | i :: is, k :: ks, m, m', h, id, hid => by
    rw [addIds_other is ks _ m' h id (List.not_mem_of_not_mem_cons hid),
      AMap.get_set_ne (List.ne_of_not_mem_cons hid)]

theorem removeIds_other : ∀ (ids : List String) (m : AMap String String) (id : String),
    id ∉ ids → AMap.get (removeIds m ids) id = AMap.get m id
  | [], _, _, _ => rfl
  | i :: is, m, id, hid => by
    rw [removeIds, removeIds_other is _ id (List.not_mem_of_not_mem_cons hid),
      AMap.get_erase_ne (List.ne_of_not_mem_cons hid)]

theorem removeIds_removed : ∀ (ids : List String) (m : AMap String String) (id : String),
    id ∈ ids → AMap.get (removeIds m ids) id = none
  | i :: is, m, id, hid => by
    rw [removeIds]
    by_cases hin : id ∈ is
    · exact removeIds_removed is _ id hin
    · obtain rfl : id = i := (List.mem_cons.mp hid).resolve_right hin
      rw [removeIds_other is _ id hin, AMap.get_erase_self]

theorem aclGet_addIds {a : Acl} {m m' : AMap String String} {ids keys : List String} (hm : aclMap a = some m)
    (hm' : addIds m ids keys = some m') {id : String} (hid : id ∉ ids) : aclGet (.map m') id = aclGet a id :=
  (addIds_other ids keys m m' hm' id hid).trans (aclGet_of_aclMap hm id).symm

theorem aclGet_aclRemove_other {a : Acl} {m : AMap String String} (hm : aclMap a = some m) {ids : List String}
    {id : String} (hid : id ∉ ids) : aclGet (aclRemove a m ids) id = aclGet a id := by
  unfold aclRemove
  split
  · next h => rw [h]
  · exact (removeIds_other ids m id hid).trans (aclGet_of_aclMap hm id).symm

theorem aclGet_aclRemove_removed (a : Acl) (m : AMap String String) {ids : List String} {id : String}
    (hid : id ∈ ids) : aclGet (aclRemove a m ids) id = none := by
  unfold aclRemove
  split
  · rfl
  · exact removeIds_removed ids m id hid

/-- the six access-list messages, with their signer and the address and owner key they name -/
inductive AclOp : Op → String → String → String → Prop
  | addViewers (c a fo ids keys) : AclOp (.addViewers c a fo ids keys) c a fo
  | removeViewers (c a fo ids) : AclOp (.removeViewers c a fo ids) c a fo
  | resetViewers (c a fo) : AclOp (.resetViewers c a fo) c a fo
  | addEditors (c a fo ids keys) : AclOp (.addEditors c a fo ids keys) c a fo
  | removeEditors (c a fo ids) : AclOp (.removeEditors c a fo ids) c a fo
  | resetEditors (c a fo) : AclOp (.resetEditors c a fo) c a fo

/-- What a successful message found and wrote.  Of an access-list message only this is kept: the
entry under the named key belongs to the signer and is overwritten, under the key made of its own
address and owner, by an entry with the same address and owner. -/
inductive Step (s : State) : Op → State → Prop
  | postFile (c acc hp hc ct v e vr er tr parent) :
      AMap.get s.files (hp, makeOwnerAddress H hp acc) = some parent → hasEditAccess H parent c = some true →
      Step s (.postFile c acc hp hc ct v e vr er tr)
        { s with files := AMap.set s.files (addToMerkleS H hp hc, makeOwnerAddress H (addToMerkleS H hp hc) acc)
                            { address := addToMerkleS H hp hc, owner := makeOwnerAddress H (addToMerkleS H hp hc) acc,
                              contents := ct, viewers := v, editors := e, tracking := tr } }
  | deleteFile (c hp acc f) :
      AMap.get s.files (hp, makeOwnerAddress H hp acc) = some f → isOwner H f c = true →
      Step s (.deleteFile c hp acc) { s with files := AMap.erase s.files (hp, makeOwnerAddress H hp acc) }
  | changeOwner (c a fo no f) :
      AMap.get s.files (a, makeOwnerAddress H a fo) = some f → isOwner H f c = true →
      AMap.contains s.files (a, makeOwnerAddress H a no) = false →
      Step s (.changeOwner c a fo no)
        { s with files := AMap.erase (AMap.set s.files (f.address, makeOwnerAddress H a no)
                                        { f with owner := makeOwnerAddress H a no }) (a, makeOwnerAddress H a fo) }
  | acl {op} (c a fo f e') :
      AclOp op c a fo → AMap.get s.files (a, fo) = some f → isOwner H f c = true →
      e'.address = f.address → e'.owner = f.owner →
      Step s op { s with files := AMap.set s.files (f.address, f.owner) e' }
  | provision (c v e vr er tr) : Step s (.provision c v e vr er tr) (provision H s c v e tr)
  | postKey (c k) : Step s (.postKey c k) { s with pubkeys := AMap.set s.pubkeys c k }

theorem step_sound {op : Op} (h : step H s op = some s') : Step H s op s' := by
  have h := handle_of_step H h
  cases op with
  | postFile c acc hp hc ct v e vr er tr =>
    obtain ⟨p, hp, hok, rfl⟩ := (postFile_eq_some H).mp h
    exact .postFile _ _ _ _ _ _ _ _ _ _ p hp hok
  | deleteFile c hp acc =>
    obtain ⟨f, hf, ho, rfl⟩ := (deleteFile_eq_some H).mp h
    exact .deleteFile _ _ _ f hf ho
  | changeOwner c a fo no =>
    obtain ⟨f, hf, ho, hnew, rfl⟩ := (changeOwner_eq_some H).mp h
    exact .changeOwner _ _ _ _ f hf ho hnew
  | addViewers c a fo ids keys =>
    obtain ⟨f, hf, ho, _, _, _, _, _, rfl⟩ := (addViewers_eq_some H).mp h
    exact .acl _ _ _ f _ (.addViewers ..) hf ho rfl rfl
  | removeViewers c a fo ids =>
    obtain ⟨f, hf, ho, _, _, rfl⟩ := (removeViewers_eq_some H).mp h
    exact .acl _ _ _ f _ (.removeViewers ..) hf ho rfl rfl
  | resetViewers c a fo =>
    obtain ⟨f, hf, ho, _, _, rfl⟩ := (resetViewers_eq_some H).mp h
    exact .acl _ _ _ f _ (.resetViewers ..) hf ho rfl rfl
  | addEditors c a fo ids keys =>
    obtain ⟨f, hf, ho, _, _, _, _, _, rfl⟩ := (addEditors_eq_some H).mp h
    exact .acl _ _ _ f _ (.addEditors ..) hf ho rfl rfl
  | removeEditors c a fo ids =>
    obtain ⟨f, hf, ho, _, _, rfl⟩ := (removeEditors_eq_some H).mp h
    exact .acl _ _ _ f _ (.removeEditors ..) hf ho rfl rfl
  | resetEditors c a fo =>
    obtain ⟨f, hf, ho, _, _, rfl⟩ := (resetEditors_eq_some H).mp h
    exact .acl _ _ _ f _ (.resetEditors ..) hf ho rfl rfl
  | provision c v e vr er tr => cases h; exact .provision ..
  | postKey c k => cases h; exact .postKey ..

end Canine.Filetree
