/-
The whole-block part of C03 (`Canine/Props/C03.lean`): the tracker the file pass of `manageRewards`
builds, as a pure fold over the passing (file, proof key) pairs; the state after the file pass
(`FileSpec` for one file, `BlockSpec` for all); the payout loop as a log of the sends that went
through (`BalLog`), a sublist of the candidate sends in general and all of them when the module
account is funded; the arithmetic that bounds the sum paid by the amount released; and the arrival
of the released coins in the module account.  Core Lean only.
-/
import Canine.Proofs.RewardLoops
namespace Canine.Storage.RewardBlock

/-! ## the totals as sums

The totals `wsum`, `paidTo`, `paidOut`, `coinPay`, `Bank.amt` are all of the form "Σ over the list of
(if the entry matches then its value else 0)"; what is needed of them follows from the facts about
`(l.map f).sum` in `Proofs/Basic.lean`. -/

theorem amt_eq (d : String) (cs : Coins) : Bank.amt d cs = (cs.map (fun c => if c.1 = d then c.2 else 0)).sum :=
  eq_sum_map (F := Bank.amt d) rfl (fun _ _ => rfl) cs

theorem amt_nonneg (d : String) : ∀ (coins : Coins), (∀ c ∈ coins, 0 ≤ c.2) → 0 ≤ Bank.amt d coins := by
  intro coins h
  rw [amt_eq]
  exact sum_map_nonneg _ coins (fun c hc => ite_nonneg (h c hc))

theorem wsum_nonneg (a : String) : ∀ (l : List (String × Int)), (∀ e ∈ l, 0 ≤ e.2) → 0 ≤ wsum a l := by
  intro l h
  exact sum_map_nonneg _ l (fun e he => ite_nonneg (h e he))

theorem creditAll_keys : ∀ (l : List (String × Int)) (t : Tracker) (a : String),
    a ∈ AMap.keys (creditAll t l) ↔ a ∈ AMap.keys t ∨ a ∈ l.map (·.1)
  | [], t, a => by simp [creditAll]
  | e :: l, t, a => by
    rw [creditAll_cons, creditAll_keys l, credit_keys]
    simp only [List.map_cons, List.mem_cons, or_assoc]

theorem creditAll_wf : ∀ (l : List (String × Int)) (t : Tracker), AMap.WF t → AMap.WF (creditAll t l)
  | [], _, h => h
  | e :: l, t, h => creditAll_wf l (credit t e.1 e.2) (AMap.wf_set _ _ h)

theorem credit_sumBy (t : Tracker) (n : String) (x : Int) (h : AMap.WF t) :
    AMap.sumBy id (credit t n x) = AMap.sumBy id t + x := by
  unfold credit
  rw [AMap.sumBy_set id n _ h]
  cases AMap.get t n <;> simp <;> omega

theorem creditAll_sumBy : ∀ (l : List (String × Int)) (t : Tracker), AMap.WF t →
    AMap.sumBy id (creditAll t l) = AMap.sumBy id t + (l.map (·.2)).sum
  | [], t, _ => by simp [creditAll]
  | e :: l, t, h => by
    rw [creditAll_cons, creditAll_sumBy l (credit t e.1 e.2) (AMap.wf_set _ _ h), credit_sumBy t _ _ h]
    simp only [List.map_cons, List.sum_cons]; omega

theorem creditAll_entry (l : List (String × Int)) (p : String) (w : Int)
    (hm : (p, w) ∈ creditAll [] l) : w = wsum p l := by
  have := creditAll_getD l [] p
  rw [AMap.get_of_mem_wf (creditAll_wf l [] AMap.wf_nil) hm] at this
  simpa using this

/-- the "no provers left and past the first window" test of `removeFileIfDeserved` -/
def emptyOld (h : Int) (f : File) : Bool := f.proofs.isEmpty && !(isYoung h f.start f.proofInterval)

theorem emptyOld_iff {h : Int} {f : File} :
    emptyOld h f = true ↔ f.proofs = [] ∧ isYoung h f.start f.proofInterval = false := by
  simp only [emptyOld, Bool.and_eq_true, List.isEmpty_iff, Bool.not_eq_true']

/-- what is stored under the file's key after the block: nothing for an empty old file, otherwise
the file with exactly its passing provers, in order -/
def outcome (s : State) (h : Int) (f : File) : Option File :=
  if emptyOld h f then none else some { f with proofs := f.proofs.filter (passes s h f) }

/-- `SameRest` without the payment plans (dropping an empty old plan-paid file returns its footprint) -/
def SameRestB (s' s : State) : Prop :=
  s'.collateral = s.collateral ∧ s'.gauges = s.gauges ∧ s'.attests = s.attests ∧
  s'.reports = s.reports ∧ s'.bank = s.bank ∧ s'.params = s.params ∧ s'.moduleAcc = s.moduleAcc ∧
  s'.collateralAcc = s.collateralAcc ∧ s'.polAcc = s.polAcc ∧ s'.feeAcc = s.feeAcc ∧ s'.blocked = s.blocked

theorem SameRestB.refl (s : State) : SameRestB s s := (SameRest.refl s).2
theorem SameRestB.trans {a b c : State} (h1 : SameRestB a b) (h2 : SameRestB b c) : SameRestB a c := by
  unfold SameRestB at *; simp_all

structure FileSpec (h : Int) (c : State) (t : Tracker) (f : File) (r : State × Tracker) : Prop where
  tracker : r.2 = creditAll t (passEntriesOf c h f f.proofs)
  files : ∀ k, AMap.get r.1.files k = if k = f.key then outcome c h f else AMap.get c.files k
  files2 : ∀ k, AMap.get r.1.files2 k = if k = f.key then outcome c h f else AMap.get c.files2 k
  proofs : ∀ q, AMap.get r.1.proofs q = if q ∈ f.proofs ∧ passes c h f q = false then none else AMap.get c.proofs q
  providers : ∀ x, AMap.get r.1.providers x = (AMap.get c.providers x).map (bump (burnsOf c h f f.proofs x))
  rest : SameRestB r.1 c
  payinfo : emptyOld h f = false → r.1.payinfo = c.payinfo

theorem manageFile_spec (c : State) (h : Int) (t : Tracker) (f : File) (hnd : f.proofs.Nodup)
    (hf : AMap.get c.files f.key = some f) (hf2 : AMap.get c.files2 f.key = some f) :
    FileSpec h c t f (manageFile c h t f) := by
  rw [manageFile_eq]
  cases heo : emptyOld h f
  · -- the ordinary case: the loop runs on the state as it is
    rw [show (f.proofs.isEmpty && !(isYoung h f.start f.proofInterval)) = false from heo]
    simp only [Bool.false_eq_true, if_false]
    obtain ⟨H, ht⟩ := runProofs_spec h c t f hnd hf hf2
    have ho : outcome c h f = some (runProofs h f.proofs c t f).2.2 := by
      rw [H.file_all]; simp [outcome, heo]
    exact ⟨ht, fun k => by rw [H.files k, ho],
      fun k => by rw [H.files2 k, ho], H.proofs, H.providers, H.rest.2, fun _ => H.rest.1⟩
  · -- an empty file past its first window is dropped
    rw [show (f.proofs.isEmpty && !(isYoung h f.start f.proofInterval)) = true from heo]
    have he : f.proofs = [] := (emptyOld_iff.mp heo).1
    have herase : ∀ (m : AMap FKey File) k,
        AMap.get (AMap.erase m f.key) k = if k = f.key then outcome c h f else AMap.get m k := by
      intro m k
      rw [AMap.get_erase', show outcome c h f = none by simp [outcome, heo]]
    simp only [if_true, he, runProofs, List.foldl_nil, removeFile_some hf]
    exact ⟨by simp [passEntriesOf, creditAll, he], herase _, herase _, fun q => by simp [he],
      fun x => by simp [burnsOf, map_bump_zero, he], (SameRest.refl c).2, fun h' => by simp [heo] at h'⟩

def blockEntries (s : State) (h : Int) (fs : List (FKey × File)) : List (String × Int) :=
  fs.flatMap (fun kv => passEntriesOf s h kv.2 kv.2.proofs)

def failsIn (s : State) (h : Int) (fs : List (FKey × File)) (q : PKey) : Bool :=
  fs.any (fun kv => decide (q ∈ kv.2.proofs) && !passes s h kv.2 q)

def blockBurns (s : State) (h : Int) (fs : List (FKey × File)) (x : String) : Nat :=
  (fs.map (fun kv => burnsOf s h kv.2 kv.2.proofs x)).sum

/-- the store invariant, stated for the list of files the loop ranges over -/
structure FilesOK (fs : List (FKey × File)) (c : State) : Prop where
  nodupKeys : (fs.map (·.1)).Nodup
  ownKey : ∀ kv ∈ fs, kv.2.key = kv.1
  stored : ∀ kv ∈ fs, AMap.get c.files kv.1 = some kv.2
  stored2 : ∀ kv ∈ fs, AMap.get c.files2 kv.1 = some kv.2
  nodupProofs : ∀ kv ∈ fs, kv.2.proofs.Nodup
  listed : ∀ kv ∈ fs, ∀ pk ∈ kv.2.proofs, pk.2 = kv.1

structure BlockSpec (h : Int) (fs : List (FKey × File)) (c : State) (t : Tracker) (r : State × Tracker) : Prop where
  tracker : r.2 = creditAll t (blockEntries c h fs)
  files : ∀ kv ∈ fs, AMap.get r.1.files kv.1 = outcome c h kv.2
  filesOther : ∀ k, k ∉ fs.map (·.1) → AMap.get r.1.files k = AMap.get c.files k
  files2 : ∀ kv ∈ fs, AMap.get r.1.files2 kv.1 = outcome c h kv.2
  files2Other : ∀ k, k ∉ fs.map (·.1) → AMap.get r.1.files2 k = AMap.get c.files2 k
  proofs : ∀ q, AMap.get r.1.proofs q = if failsIn c h fs q then none else AMap.get c.proofs q
  providers : ∀ x, AMap.get r.1.providers x = (AMap.get c.providers x).map (bump (blockBurns c h fs x))
  rest : SameRestB r.1 c
  payinfo : (∀ kv ∈ fs, emptyOld h kv.2 = false) → r.1.payinfo = c.payinfo

/-- what the block does with one file depends on the state only through the records of the file's
own keys -/
theorem file_congr {s s' : State} (h : Int) {g : File}
    (hg : ∀ q ∈ g.proofs, AMap.get s'.proofs q = AMap.get s.proofs q) :
    passEntriesOf s' h g g.proofs = passEntriesOf s h g g.proofs ∧ outcome s' h g = outcome s h g ∧
    (∀ q, (decide (q ∈ g.proofs) && !passes s' h g q) = (decide (q ∈ g.proofs) && !passes s h g q)) ∧
    ∀ x, burnsOf s' h g g.proofs x = burnsOf s h g g.proofs x := by
  have hp : ∀ q ∈ g.proofs, passes s' h g q = passes s h g q := fun q hq => passes_congr (hg q hq) rfl rfl
  refine ⟨?_, ?_, fun q => ?_, fun x => ?_⟩
  · unfold passEntriesOf
    rw [List.filter_congr hp]
    exact List.map_congr_left (fun q hq => by rw [creditName_congr (hg q (List.mem_filter.mp hq).1)])
  · unfold outcome; rw [List.filter_congr hp]
  · by_cases hq : q ∈ g.proofs
    · rw [hp q hq]
    · simp [hq]
  · unfold burnsOf
    exact List.countP_congr (fun q hq => by rw [hp q hq, hg q hq])

theorem BlockSpec.step {h : Int} {fs done rest : List (FKey × File)} {c : State} {t : Tracker}
    {r : State × Tracker} {kv : FKey × File} (ok : FilesOK fs c) (hfs : fs = done ++ kv :: rest)
    (B : BlockSpec h done c t r) : BlockSpec h (done ++ [kv]) c t (manageFile r.1 h r.2 kv.2) := by
  have hin : kv ∈ fs := by rw [hfs]; simp
  have hkey : kv.2.key = kv.1 := ok.ownKey kv hin
  have hnk : kv.1 ∉ done.map (·.1) :=
    not_mem_of_nodup_split ok.nodupKeys (by rw [hfs, List.map_append, List.map_cons])
  have hne : ∀ g ∈ done, g.1 ≠ kv.1 := fun g hg e => hnk (e ▸ List.mem_map_of_mem (f := (·.1)) hg)
  have F := manageFile_spec r.1 h r.2 kv.2 (ok.nodupProofs kv hin)
    (by rw [hkey, B.filesOther _ hnk]; exact ok.stored kv hin)
    (by rw [hkey, B.files2Other _ hnk]; exact ok.stored2 kv hin)
  -- the keys of this file are listed in no earlier file, so their records are as at the start
  have hsame : ∀ q ∈ kv.2.proofs, AMap.get r.1.proofs q = AMap.get c.proofs q := by
    intro q hq
    rw [B.proofs q, if_neg]
    rw [Bool.not_eq_true, failsIn, List.any_eq_false]
    intro g hg
    have hdone : g ∈ fs := by rw [hfs]; exact List.mem_append_left _ hg
    have : q ∉ g.2.proofs := fun hq' => hne g hg ((ok.listed g hdone q hq').symm.trans (ok.listed kv hin q hq))
    simp [this]
  obtain ⟨c1, c2, c3, c4⟩ := file_congr h hsame
  generalize manageFile r.1 h r.2 kv.2 = r' at F ⊢
  -- both indexes: the earlier files keep their outcome, this file gets its own, other keys are as before
  have hidx : ∀ (m' m mc : AMap FKey File),
      (∀ k, AMap.get m' k = if k = kv.2.key then outcome r.1 h kv.2 else AMap.get m k) →
      (∀ g ∈ done, AMap.get m g.1 = outcome c h g.2) →
      (∀ k, k ∉ done.map (·.1) → AMap.get m k = AMap.get mc k) →
      (∀ g ∈ done ++ [kv], AMap.get m' g.1 = outcome c h g.2) ∧
      (∀ k, k ∉ (done ++ [kv]).map (·.1) → AMap.get m' k = AMap.get mc k) := by
    intro m' m mc hm' hm hmc
    rw [hkey] at hm'
    refine ⟨fun g hg => ?_, fun k hk => ?_⟩
    · rcases List.mem_append.mp hg with hg' | hg'
      · rw [hm', if_neg (hne g hg'), hm g hg']
      · rw [List.mem_singleton.mp hg', hm', if_pos rfl, c2]
    · simp only [List.map_append, List.map_cons, List.map_nil, List.mem_append, List.mem_singleton, not_or] at hk
      rw [hm' k, if_neg hk.2, hmc k hk.1]
  obtain ⟨x1, x2⟩ := hidx _ _ _ F.files B.files B.filesOther
  obtain ⟨y1, y2⟩ := hidx _ _ _ F.files2 B.files2 B.files2Other
  refine ⟨?_, x1, x2, y1, y2, ?_, ?_, F.rest.trans B.rest, ?_⟩
  · rw [F.tracker, B.tracker, c1, ← creditAll_append]
    unfold blockEntries
    rw [List.flatMap_append, List.flatMap_cons, List.flatMap_nil, List.append_nil]
  · intro q
    rw [F.proofs q, B.proofs q]
    unfold failsIn
    rw [List.any_append]
    simp only [List.any_cons, List.any_nil, Bool.or_false, ← c3 q]
    simp only [Bool.or_eq_true, Bool.and_eq_true, decide_eq_true_eq, Bool.not_eq_true']
    by_cases h1 : q ∈ kv.2.proofs ∧ passes r.1 h kv.2 q = false
    · simp only [h1, and_self, or_true, if_true]
    · simp only [h1, or_false, if_false]
  · intro x
    rw [F.providers x, B.providers x, map_bump_bump, c4 x]
    unfold blockBurns
    rw [List.map_append, List.sum_append]
    simp only [List.map_cons, List.map_nil, List.sum_cons, List.sum_nil, Nat.add_zero, Int.natCast_add]
  · intro hall
    rw [F.payinfo (hall kv (by simp)), B.payinfo (fun g hg => hall g (List.mem_append_left _ hg))]

theorem filePass_spec (h : Int) : ∀ (fs : List (FKey × File)) (c : State) (t : Tracker),
    FilesOK fs c → BlockSpec h fs c t (filePass h fs c t) := fun fs c t ok =>
  foldl_split_ind _ fs (BlockSpec h · c t) (fun _ _ _ _ hfs B => B.step ok hfs) fs [] (c, t) rfl
    ⟨rfl, by simp, fun _ _ => rfl, by simp, fun _ _ => rfl, by simp [failsIn],
      fun x => by simp [blockBurns, map_bump_zero], SameRestB.refl c, fun _ => rfl⟩

/-- whatever the store looks like, the file pass writes no other field than files, records, providers
and payment plans -/
theorem filePass_rest (h : Int) (fs : List (FKey × File)) (c : State) (t : Tracker) :
    SameRestB (filePass h fs c t).1 c :=
  filePass_frame_ind (fun c' => SameRestB c' c) (fun _ => True)
    (hRF := fun s f _ hs => by rw [removeFile_writes]; exact hs) (hDP := fun _ _ _ _ hs => ⟨hs, trivial⟩)
    (hBurn := fun s a hs => by rw [burnContract_writes]; exact hs) h fs (fun _ _ => trivial) c t (SameRestB.refl c)

def blockCredit (s : State) (h : Int) (fs : List (FKey × File)) (a : String) : Int :=
  (fs.map (fun kv => kv.2.fileSize * (creditsOf s h kv.2 kv.2.proofs a : Int))).sum

theorem wsum_blockEntries (s : State) (h : Int) (a : String) : ∀ (fs : List (FKey × File)),
    wsum a (blockEntries s h fs) = blockCredit s h fs a := fun fs =>
  (sum_map_flatMap _ _ fs).trans
    (congrArg List.sum (List.map_congr_left (fun kv _ => wsum_passEntriesOf s h kv.2 a kv.2.proofs)))

theorem mem_blockEntries {s : State} {h : Int} {fs : List (FKey × File)} {e : String × Int} :
    e ∈ blockEntries s h fs ↔
      ∃ kv ∈ fs, ∃ pk ∈ kv.2.proofs, passes s h kv.2 pk = true ∧ e = (creditName s pk, kv.2.fileSize) := by
  unfold blockEntries passEntriesOf
  simp only [List.mem_flatMap, List.mem_map, List.mem_filter]
  exact ⟨fun ⟨kv, hkv, pk, ⟨h1, h2⟩, e⟩ => ⟨kv, hkv, pk, h1, h2, e.symm⟩,
    fun ⟨kv, hkv, pk, h1, h2, e⟩ => ⟨kv, hkv, pk, ⟨h1, h2⟩, e.symm⟩⟩

theorem sum_passEntriesOf (s : State) (h : Int) (f : File) (l : List PKey) :
    ((passEntriesOf s h f l).map (·.2)).sum = f.fileSize * ((l.filter (passes s h f)).length : Int) := by
  unfold passEntriesOf
  rw [List.map_map, show ((·.2) ∘ fun pk : PKey => (creditName s pk, f.fileSize)) = fun _ => f.fileSize from rfl,
    List.map_const', List.sum_replicate_int, Int.mul_comm]

/-- every credited pair is a listed pair: the entries' total size is at most `Σ fileSize·|proofs|` -/
theorem sum_blockEntries_le (s : State) (h : Int) : ∀ (fs : List (FKey × File)),
    (∀ kv ∈ fs, 0 ≤ kv.2.fileSize) → ((blockEntries s h fs).map (·.2)).sum ≤ blockTotal fs := by
  intro fs hs
  rw [blockEntries, sum_map_flatMap]
  refine sum_map_le _ _ fs (fun kv hkv => ?_)
  rw [sum_passEntriesOf]
  exact Int.mul_le_mul_of_nonneg_left (Int.ofNat_le.mpr (List.length_filter_le _ _)) (hs kv hkv)

theorem blockEntries_nonneg (s : State) (h : Int) (fs : List (FKey × File))
    (hs : ∀ kv ∈ fs, 0 ≤ kv.2.fileSize) : ∀ e ∈ blockEntries s h fs, 0 ≤ e.2 := by
  intro e he
  obtain ⟨kv, hkv, pk, _, _, rfl⟩ := mem_blockEntries.mp he
  exact hs kv hkv

/-- a send out of the module account that went through: recipient, denomination, amount -/
abbrev Pay := String × String × Int

def paidTo : List Pay → String → String → Int
  | [], _, _ => 0
  | e :: l, a, d => (if e.1 = a ∧ e.2.1 = d then e.2.2 else 0) + paidTo l a d

def paidOut : List Pay → String → Int
  | [], _ => 0
  | e :: l, d => (if e.2.1 = d then e.2.2 else 0) + paidOut l d

theorem paidTo_eq (l : List Pay) (a d : String) :
    paidTo l a d = (l.map (fun e => if e.1 = a ∧ e.2.1 = d then e.2.2 else 0)).sum :=
  eq_sum_map (F := fun l => paidTo l a d) rfl (fun _ _ => rfl) l

theorem paidOut_eq (l : List Pay) (d : String) :
    paidOut l d = (l.map (fun e => if e.2.1 = d then e.2.2 else 0)).sum :=
  eq_sum_map (F := fun l => paidOut l d) rfl (fun _ _ => rfl) l

theorem paidTo_append (l1 l2 : List Pay) (a d : String) : paidTo (l1 ++ l2) a d = paidTo l1 a d + paidTo l2 a d := by
  simp only [paidTo_eq, List.map_append, List.sum_append]

theorem paidOut_append (l1 l2 : List Pay) (d : String) : paidOut (l1 ++ l2) d = paidOut l1 d + paidOut l2 d := by
  simp only [paidOut_eq, List.map_append, List.sum_append]

theorem paidTo_nonneg (a d : String) : ∀ (l : List Pay), (∀ e ∈ l, 0 ≤ e.2.2) → 0 ≤ paidTo l a d := by
  intro l h
  rw [paidTo_eq]
  exact sum_map_nonneg _ l (fun e he => ite_nonneg (h e he))

theorem paidOut_nonneg (d : String) (l : List Pay) (h : ∀ e ∈ l, 0 ≤ e.2.2) : 0 ≤ paidOut l d := by
  rw [paidOut_eq]
  exact sum_map_nonneg _ l (fun e he => ite_nonneg (h e he))

theorem paidTo_le_paidOut (a d : String) : ∀ (l : List Pay), (∀ e ∈ l, 0 ≤ e.2.2) → paidTo l a d ≤ paidOut l d := by
  intro l h
  rw [paidTo_eq, paidOut_eq]
  refine sum_map_le _ _ l (fun e he => ?_)
  split
  · rename_i hc; rw [if_pos hc.2]; exact Int.le_refl _
  · split
    · exact h e he
    · exact Int.le_refl _

theorem paidOut_sublist (d : String) {lg full : List Pay} (h : lg.Sublist full) :
    (∀ e ∈ full, 0 ≤ e.2.2) → paidOut lg d ≤ paidOut full d := by
  intro hn
  rw [paidOut_eq, paidOut_eq]
  exact sum_map_sublist _ h (fun e he => ite_nonneg (hn e he))

theorem paidTo_sublist (a d : String) {lg full : List Pay} (h : lg.Sublist full) :
    (∀ e ∈ full, 0 ≤ e.2.2) → paidTo lg a d ≤ paidTo full a d := by
  intro hn
  rw [paidTo_eq, paidTo_eq]
  exact sum_map_sublist _ h (fun e he => ite_nonneg (hn e he))

theorem paidTo_eq_zero (a d : String) : ∀ (lg : List Pay), (∀ e ∈ lg, e.1 ≠ a) → paidTo lg a d = 0 := by
  intro lg h
  rw [paidTo_eq]
  exact sum_map_eq_zero _ lg (fun e he => if_neg (fun hc => h e he hc.1))

theorem paidOut_map (p d : String) (g : Coin → Int) (cs : Coins) :
    paidOut (cs.map (fun c => ((p, c.1, g c) : Pay))) d = (cs.map (fun c => if c.1 = d then g c else 0)).sum := by
  rw [paidOut_eq, List.map_map]; rfl

theorem paidTo_map (p a d : String) (g : Coin → Int) (cs : Coins) :
    paidTo (cs.map (fun c => ((p, c.1, g c) : Pay))) a d =
      if p = a then (cs.map (fun c => if c.1 = d then g c else 0)).sum else 0 := by
  rw [paidTo_eq, List.map_map]
  by_cases h : p = a
  · simp only [h, if_true]
    exact congrArg List.sum (List.map_congr_left (fun c _ => by simp))
  · rw [if_neg h]
    exact sum_map_eq_zero _ cs (fun c _ => by simp [h])

/-- the ledger of `b` is that of `a` after the sends of `lg` out of the module account; nothing else differs -/
def BalLog (a : State) (lg : List Pay) (b : State) : Prop :=
  b = { a with bank := b.bank } ∧
  ∀ x d, Bank.bal b.bank x d = Bank.bal a.bank x d + paidTo lg x d - (if x = a.moduleAcc then paidOut lg d else 0)

theorem BalLog.nil (a : State) : BalLog a [] a := ⟨rfl, fun _ _ => by simp [paidTo, paidOut]⟩

theorem BalLog.append {a b c : State} {l1 l2 : List Pay} (h1 : BalLog a l1 b) (h2 : BalLog b l2 c) :
    BalLog a (l1 ++ l2) c := by
  obtain ⟨e1, f1⟩ := h1
  obtain ⟨e2, f2⟩ := h2
  have hm : b.moduleAcc = a.moduleAcc := by rw [e1]
  refine ⟨by rw [e2, e1], ?_⟩
  intro x d
  rw [f2 x d, f1 x d, paidTo_append, paidOut_append, hm]
  split <;> omega

theorem BalLog.congr {a b : State} {l l' : List Pay} (h : BalLog a l b)
    (h1 : ∀ x d, paidTo l' x d = paidTo l x d) (h2 : ∀ d, paidOut l' d = paidOut l d) : BalLog a l' b :=
  ⟨h.1, fun x d => by rw [h.2 x d, h1, h2]⟩

theorem BalLog.of_send {st : State} {p : String} {cs : Coins} {b : Bank}
    (h : Bank.send st.bank st.moduleAcc p cs = some b) :
    BalLog st (cs.map (fun c => ((p, c.1, c.2) : Pay))) { st with bank := b } := by
  refine ⟨rfl, fun x d => ?_⟩
  rw [Bank.bal_send h x d, paidTo_map, paidOut_map, ← amt_eq]
  simp only [eq_comm (a := st.moduleAcc)]

def PaidLog (a : State) (lg : List Pay) (b : State) : Prop :=
  BalLog a lg b ∧ ∀ e ∈ lg, 0 < e.2.2 ∧ a.blocked.contains e.1 = false

theorem PaidLog.nil (a : State) : PaidLog a [] a := ⟨BalLog.nil a, by simp⟩

theorem PaidLog.append {a b c : State} {l1 l2 : List Pay} (h1 : PaidLog a l1 b) (h2 : PaidLog b l2 c) :
    PaidLog a (l1 ++ l2) c := by
  refine ⟨h1.1.append h2.1, ?_⟩
  have hb : b.blocked = a.blocked := by rw [h1.1.1]
  intro e he
  rcases List.mem_append.mp he with he | he
  · exact h1.2 e he
  · have := h2.2 e he; rw [hb] at this; exact this

/-- the converse of `payCoin_spec`: a non-negative amount that can be sent to a prover that is not blocked is sent -/
theorem payCoin_of_send {p : String} {share : Dec} {st : State} {coin : Coin} {b : Bank}
    (h0 : 0 ≤ Dec.trunc (Dec.mul share (Dec.ofInt coin.2))) (hnb : st.blocked.contains p = false)
    (hs : Bank.send st.bank st.moduleAcc p (coinsOf coin.1 (Dec.trunc (Dec.mul share (Dec.ofInt coin.2)))) = some b) :
    payCoin p share st coin = .ok { st with bank := b } := by
  unfold payCoin sendFromModule
  simp only [if_neg (Int.not_lt.mpr h0), newCoins_coinsOf h0, Option.bind_some, hnb, Bool.false_eq_true, if_false, hs]

/-- the log entries of `coinsOf d x` are those of the single coin `(d, x)`, a zero coin counting nothing -/
theorem coinsOf_log (p d : String) (x : Int) :
    ((coinsOf d x).map (fun c => ((p, c.1, c.2) : Pay))).Sublist [(p, d, x)] ∧
    (∀ a d', paidTo [(p, d, x)] a d' = paidTo ((coinsOf d x).map (fun c => ((p, c.1, c.2) : Pay))) a d') ∧
    (∀ d', paidOut [(p, d, x)] d' = paidOut ((coinsOf d x).map (fun c => ((p, c.1, c.2) : Pay))) d') ∧
    ∀ e ∈ (coinsOf d x).map (fun c => ((p, c.1, c.2) : Pay)), e = (p, d, x) ∧ x ≠ 0 := by
  unfold coinsOf
  split
  · rename_i hz
    exact ⟨List.nil_sublist _, fun a d' => by simp [paidTo, hz], fun d' => by simp [paidOut, hz], by simp⟩
  · rename_i hz
    exact ⟨List.Sublist.refl _, fun _ _ => rfl, fun _ => rfl, by simp [hz]⟩

/-- generic rule for `List.foldlM` in `Except`: when every successful step is described by a sublist
of that element's candidates, the whole loop is described by a sublist of all candidates, in order -/
theorem foldlM_except_log {σ α ε β : Type} (f : σ → α → Except ε σ) (cand : α → List β)
    (Rel : σ → List β → σ → Prop) (hnil : ∀ s, Rel s [] s)
    (happ : ∀ {a b c l1 l2}, Rel a l1 b → Rel b l2 c → Rel a (l1 ++ l2) c) :
    ∀ (l : List α) (s s' : σ),
      (∀ x ∈ l, ∀ a b, f a x = .ok b → ∃ lg, lg.Sublist (cand x) ∧ Rel a lg b) →
      l.foldlM f s = .ok s' → ∃ lg, lg.Sublist (l.flatMap cand) ∧ Rel s lg s'
  | [], s, s', _, h => by
    cases h; exact ⟨[], by simp, hnil s⟩
  | x :: l, s, s', hstep, h => by
    obtain ⟨s1, hx, h⟩ := foldlM_cons_ok h
    obtain ⟨l1, hs1, r1⟩ := hstep x (by simp) s s1 hx
    obtain ⟨l2, hs2, r2⟩ := foldlM_except_log f cand Rel hnil happ l s1 s'
      (fun y hy => hstep y (List.mem_cons_of_mem _ hy)) h
    exact ⟨l1 ++ l2, by rw [List.flatMap_cons]; exact hs1.append hs2, happ r1 r2⟩

/-- what the prover `pw.1` (credited `pw.2`) is owed of the released coins: one candidate send per coin -/
def proverPays (total : Int) (coins : Coins) (pw : String × Int) : List Pay :=
  if pw.1 = "" then [] else coins.map (fun c => (pw.1, c.1, payout total c.2 pw.2))

def blockPays (total : Int) (coins : Coins) (l : List (String × Int)) : List Pay :=
  l.flatMap (proverPays total coins)

theorem mem_proverPays {total : Int} {coins : Coins} {pw : String × Int} {e : Pay}
    (he : e ∈ proverPays total coins pw) :
    pw.1 ≠ "" ∧ ∃ c ∈ coins, e = (pw.1, c.1, payout total c.2 pw.2) := by
  unfold proverPays at he
  split at he
  · simp at he
  · rename_i hne
    obtain ⟨c, hc, rfl⟩ := List.mem_map.mp he
    exact ⟨hne, c, hc, rfl⟩

theorem payProver_log (s s' : State) (total : Int) (coins : Coins) (p : String) (w : Int)
    (h : payProver s total coins p w = .ok s') :
    ∃ lg, lg.Sublist (proverPays total coins (p, w)) ∧ PaidLog s lg s' := by
  rw [payProver_eq] at h
  split at h
  · cases h
  rename_i share hq
  split at h
  · cases h; exact ⟨[], List.nil_sublist _, PaidLog.nil s⟩
  rename_i hp
  have key := foldlM_except_log (payCoin p share)
    (fun c => [((p, c.1, payout total c.2 w) : Pay)]) PaidLog PaidLog.nil
    PaidLog.append coins s s' ?_ h
  · obtain ⟨lg, hsub, hl⟩ := key
    rw [← List.map_eq_flatMap] at hsub
    exact ⟨lg, by unfold proverPays; rw [if_neg hp]; exact hsub, hl⟩
  · intro c _ a b hab
    obtain ⟨h0, e | ⟨hnb, bk, hs, e⟩⟩ := payCoin_spec hab
    · rw [e]; exact ⟨[], List.nil_sublist _, PaidLog.nil a⟩
    · rw [e, trunc_share_eq_payout hq] at *
      obtain ⟨l1, _, _, l4⟩ := coinsOf_log p c.1 (payout total c.2 w)
      refine ⟨_, l1, BalLog.of_send hs, fun e he => ?_⟩
      obtain ⟨rfl, hne⟩ := l4 e he
      exact ⟨by simp only; omega, by simpa using hnb⟩

theorem payLoop_log (total : Int) (coins : Coins) (l : List (String × Int)) (s s' : State)
    (h : l.foldlM (fun st pw => payProver st total coins pw.1 pw.2) s = .ok s') :
    ∃ lg, lg.Sublist (blockPays total coins l) ∧ PaidLog s lg s' :=
  foldlM_except_log (fun st (pw : String × Int) => payProver st total coins pw.1 pw.2)
    (proverPays total coins) PaidLog PaidLog.nil PaidLog.append l s s'
    (fun pw _ a b hab => payProver_log a b total coins pw.1 pw.2 hab) h

/-- generic funded loop: when every step whose candidates the module account can cover performs
exactly its candidates, and the account covers all candidates of the list, so does the loop -/
theorem foldlM_funded {α : Type} (f : State → α → Except String State) (cand : α → List Pay)
    (good : State → α → Prop)
    (hgood : ∀ a b x, b = { a with bank := b.bank } → good a x → good b x)
    (hnn : ∀ x st, good st x → ∀ e ∈ cand x, 0 ≤ e.2.2)
    (hstep : ∀ x st, good st x → (∀ d, paidOut (cand x) d ≤ Bank.bal st.bank st.moduleAcc d) →
      ∃ st', f st x = .ok st' ∧ BalLog st (cand x) st') :
    ∀ (l : List α) (st : State), (∀ x ∈ l, good st x) →
      (∀ d, paidOut (l.flatMap cand) d ≤ Bank.bal st.bank st.moduleAcc d) →
      ∃ st', l.foldlM f st = .ok st' ∧ BalLog st (l.flatMap cand) st'
  | [], st, _, _ => ⟨st, rfl, BalLog.nil st⟩
  | x :: l, st, hg, hfund => by
    have hnnx := hnn x st (hg x (by simp))
    have hnnl : ∀ e ∈ l.flatMap cand, 0 ≤ e.2.2 := by
      intro e he
      obtain ⟨y, hy, hey⟩ := List.mem_flatMap.mp he
      exact hnn y st (hg y (List.mem_cons_of_mem _ hy)) e hey
    simp only [List.flatMap_cons, paidOut_append] at hfund
    obtain ⟨st1, h1, l1⟩ := hstep x st (hg x (by simp)) (fun d => by
      have := hfund d; have := paidOut_nonneg d _ hnnl; omega)
    have hm : st1.moduleAcc = st.moduleAcc := by rw [l1.1]
    obtain ⟨st', h2, l2⟩ := foldlM_funded f cand good hgood hnn hstep l st1
      (fun y hy => hgood st st1 y l1.1 (hg y (List.mem_cons_of_mem _ hy)))
      (fun d => by
        rw [hm, l1.2 st.moduleAcc d]
        have := hfund d; have := paidTo_nonneg st.moduleAcc d _ hnnx
        simp only [if_true]; omega)
    refine ⟨st', ?_, by rw [List.flatMap_cons]; exact l1.append l2⟩
    rw [List.foldlM_cons, h1]
    exact h2

theorem payProver_funded (total : Int) (coins : Coins) (hT : 0 < total) (hc : ∀ c ∈ coins, 0 ≤ c.2)
    (p : String) (w : Int) (st : State) (hw : 0 ≤ w) (hb : st.blocked.contains p = false)
    (hfund : ∀ d, paidOut (proverPays total coins (p, w)) d ≤ Bank.bal st.bank st.moduleAcc d) :
    ∃ st', payProver st total coins p w = .ok st' ∧ BalLog st (proverPays total coins (p, w)) st' := by
  have hq := quo_ofInt_eq total w hw hT
  rw [payProver_eq, hq]
  unfold proverPays at hfund ⊢
  dsimp only at hfund ⊢
  by_cases hp : p = ""
  · rw [if_pos hp, if_pos hp]
    exact ⟨st, rfl, BalLog.nil st⟩
  · rw [if_neg hp] at hfund
    rw [if_neg hp, if_neg hp, List.map_eq_flatMap]
    rw [List.map_eq_flatMap] at hfund
    refine foldlM_funded (payCoin p ⟨rawShare total w⟩) (fun c => [((p, c.1, payout total c.2 w) : Pay)])
      (fun st' c => 0 ≤ payout total c.2 w ∧ st'.blocked.contains p = false)
      (fun a b c e g => ⟨g.1, by rw [e]; exact g.2⟩)
      (fun c st' g e he => by simp only [List.mem_singleton] at he; subst he; exact g.1)
      (fun c st' g hf => ?_) coins st
      (fun c hcm => ⟨payout_nonneg total c.2 w hw hT (hc c hcm), hb⟩) hfund
    obtain ⟨bk, hs⟩ := send_coinsOf (dst := p) g.1 (by simpa [paidOut] using hf c.1)
    obtain ⟨_, l2, l3, _⟩ := coinsOf_log p c.1 (payout total c.2 w)
    have hpay := trunc_share_eq_payout hq c.2
    exact ⟨_, payCoin_of_send (by rw [hpay]; exact g.1) g.2 (by rw [hpay]; exact hs), (BalLog.of_send hs).congr l2 l3⟩

/-- the whole payout loop, funded: the log is the complete candidate list (`0 < total` is asked of
the entries, so that an empty tracker needs no total) -/
theorem payLoop_funded (total : Int) (coins : Coins) (hc : ∀ c ∈ coins, 0 ≤ c.2)
    (l : List (String × Int)) (st : State)
    (hl : ∀ pw ∈ l, 0 < total ∧ 0 ≤ pw.2 ∧ st.blocked.contains pw.1 = false)
    (hfund : ∀ d, paidOut (blockPays total coins l) d ≤ Bank.bal st.bank st.moduleAcc d) :
    ∃ st', l.foldlM (fun st pw => payProver st total coins pw.1 pw.2) st = .ok st' ∧
      BalLog st (blockPays total coins l) st' :=
  foldlM_funded (fun st (pw : String × Int) => payProver st total coins pw.1 pw.2) (proverPays total coins)
    (fun st' pw => 0 < total ∧ 0 ≤ pw.2 ∧ st'.blocked.contains pw.1 = false)
    (fun a b pw e g => ⟨g.1, g.2.1, by rw [e]; exact g.2.2⟩)
    (fun pw st' g e he => by
      obtain ⟨_, c, hcm, rfl⟩ := mem_proverPays he
      exact payout_nonneg total c.2 pw.2 g.2.1 g.1 (hc c hcm))
    (fun pw st' g hf => payProver_funded total coins g.1 hc pw.1 pw.2 st' g.2.1 g.2.2 hf)
    l st hl hfund

/-- what a weight `w` is paid of denomination `d`: one truncated share per released coin of `d` -/
def coinPay (total : Int) (d : String) (w : Int) : Coins → Int
  | [] => 0
  | c :: cs => (if c.1 = d then payout total c.2 w else 0) + coinPay total d w cs

theorem coinPay_eq (total : Int) (d : String) (w : Int) (cs : Coins) :
    coinPay total d w cs = (cs.map (fun c => if c.1 = d then payout total c.2 w else 0)).sum :=
  eq_sum_map (F := coinPay total d w) rfl (fun _ _ => rfl) cs

theorem coinPay_nonneg (total : Int) (d : String) (w : Int) (hT : 0 < total) (hw : 0 ≤ w)
    (coins : Coins) (h : ∀ c ∈ coins, 0 ≤ c.2) : 0 ≤ coinPay total d w coins := by
  rw [coinPay_eq]
  exact sum_map_nonneg _ coins (fun c hc => ite_nonneg (payout_nonneg total c.2 w hw hT (h c hc)))

theorem paidOut_proverPays (total : Int) (coins : Coins) (pw : String × Int) (d : String) :
    paidOut (proverPays total coins pw) d = if pw.1 = "" then 0 else coinPay total d pw.2 coins := by
  unfold proverPays
  split
  · rfl
  · rw [paidOut_map pw.1 d (fun c => payout total c.2 pw.2), coinPay_eq]

theorem paidTo_proverPays (total : Int) (coins : Coins) (pw : String × Int) (a d : String) :
    paidTo (proverPays total coins pw) a d = if pw.1 = "" then 0 else if pw.1 = a then coinPay total d pw.2 coins else 0 := by
  unfold proverPays
  split
  · rfl
  · rw [paidTo_map pw.1 a d (fun c => payout total c.2 pw.2), coinPay_eq]

theorem blockPays_nonneg (total : Int) (coins : Coins) (l : List (String × Int)) (hT : 0 < total)
    (hc : ∀ c ∈ coins, 0 ≤ c.2) (hl : ∀ pw ∈ l, 0 ≤ pw.2) : ∀ e ∈ blockPays total coins l, 0 ≤ e.2.2 := by
  intro e he
  obtain ⟨pw, hpw, hepw⟩ := List.mem_flatMap.mp he
  obtain ⟨_, c, hcm, rfl⟩ := mem_proverPays hepw
  exact payout_nonneg total c.2 pw.2 (hl pw hpw) hT (hc c hcm)

theorem blockPays_recipient {total : Int} {coins : Coins} {l : List (String × Int)} {e : Pay}
    (he : e ∈ blockPays total coins l) : e.1 ≠ "" ∧ e.1 ∈ l.map (·.1) := by
  obtain ⟨pw, hpw, hepw⟩ := List.mem_flatMap.mp he
  obtain ⟨hne, c, _, rfl⟩ := mem_proverPays hepw
  exact ⟨hne, List.mem_map_of_mem (f := (·.1)) hpw⟩

/-- the candidates of denomination `d` add up to at most the per-prover amounts (the empty name is skipped) -/
theorem paidOut_blockPays_le (total : Int) (coins : Coins) (d : String) (hT : 0 < total) (hc : ∀ c ∈ coins, 0 ≤ c.2) :
    ∀ (l : List (String × Int)), (∀ pw ∈ l, 0 ≤ pw.2) →
      paidOut (blockPays total coins l) d ≤ (l.map (fun pw => coinPay total d pw.2 coins)).sum := by
  intro l hl
  rw [paidOut_eq, blockPays, sum_map_flatMap]
  refine sum_map_le _ _ l (fun pw hpw => ?_)
  rw [← paidOut_eq, paidOut_proverPays]
  split
  · exact coinPay_nonneg total d pw.2 hT (hl pw hpw) coins hc
  · exact Int.le_refl _

/-- the closed form of what one address is owed (tracker keys are distinct) -/
theorem paidTo_blockPays (total : Int) (coins : Coins) (a d : String) : ∀ (l : List (String × Int)),
    AMap.WF l → paidTo (blockPays total coins l) a d =
      if a = "" then 0 else ((AMap.get l a).map (fun w => coinPay total d w coins)).getD 0
  | [], _ => by simp [blockPays, paidTo]
  | (k, w) :: l, hwf => by
    simp only [AMap.WF, AMap.keys, List.map_cons, List.nodup_cons] at hwf
    have ih := paidTo_blockPays total coins a d l hwf.2
    unfold blockPays at *
    simp only [List.flatMap_cons, paidTo_append, paidTo_proverPays, ih, AMap.get]
    by_cases hka : k = a
    · -- the entry of `a`; the keys are distinct, so no other follows
      subst hka
      rw [if_pos rfl, if_pos rfl, AMap.get_none_of_not_mem_keys hwf.1]
      split
      · rfl
      · exact Int.add_zero _
    · rw [if_neg hka, if_neg hka, ite_self, Int.zero_add]

theorem sum_coinPay_cons (total : Int) (d : String) (c : Coin) (cs : Coins) (l : List (String × Int)) :
    (l.map (fun pw => coinPay total d pw.2 (c :: cs))).sum =
      (if c.1 = d then ((l.map (·.2)).map (payout total c.2)).sum else 0) + (l.map (fun pw => coinPay total d pw.2 cs)).sum := by
  rw [show (fun pw : String × Int => coinPay total d pw.2 (c :: cs)) =
      fun pw => (if c.1 = d then payout total c.2 pw.2 else 0) + coinPay total d pw.2 cs from rfl, sum_map_add]
  congr 1
  split
  · rw [List.map_map]; rfl
  · exact sum_map_zero l

/-- The sum owed never exceeds what was released, per denomination.  The literal in the side
condition is `2·precision`: each share rounds up by at most half a unit, so `n` shares of a coin `R`
overshoot it by less than `n·R / (2·precision)` (`payout_sum_le`). -/
theorem sum_coinPay_le (total : Int) (d : String) (l : List (String × Int)) (hT : 0 < total)
    (hl : ∀ pw ∈ l, 0 ≤ pw.2) (hsum : (l.map (·.2)).sum ≤ total) :
    ∀ (coins : Coins), (∀ c ∈ coins, 0 ≤ c.2) → (∀ c ∈ coins, (l.length : Int) * c.2 < 2 * 1000000000000000000) →
      (l.map (fun pw => coinPay total d pw.2 coins)).sum ≤ Bank.amt d coins
  | [], _, _ => by rw [show (fun pw : String × Int => coinPay total d pw.2 []) = fun _ => 0 from rfl, sum_map_zero]; exact Int.le_refl _
  | c :: cs, hc, hside => by
    have ih := sum_coinPay_le total d l hT hl hsum cs (fun x hx => hc x (List.mem_cons_of_mem _ hx))
      (fun x hx => hside x (List.mem_cons_of_mem _ hx))
    have hb := payout_sum_le total c.2 (l.map (fun pw : String × Int => pw.2)) hT (hc c (by simp))
      (by intro w hw; obtain ⟨pw, hpw, rfl⟩ := List.mem_map.mp hw; exact hl pw hpw) hsum
      (by rw [List.length_map]; unfold precision; exact hside c (by simp))
    rw [sum_coinPay_cons]
    refine Int.add_le_add ?_ ih
    split
    · exact hb
    · exact Int.le_refl _

/-- `total` is asked to be positive only for a non-empty list, so that an empty tracker needs no
total; the literal is `2·precision`, as in `sum_coinPay_le`. -/
theorem blockPays_le_released (total : Int) (coins : Coins) (l : List (String × Int))
    (hT : l ≠ [] → 0 < total) (hc : ∀ c ∈ coins, 0 ≤ c.2) (hl : ∀ pw ∈ l, 0 ≤ pw.2)
    (hsum : (l.map (·.2)).sum ≤ total) :
    (∀ e ∈ blockPays total coins l, 0 ≤ e.2.2) ∧
    ((∀ c ∈ coins, (l.length : Int) * c.2 < 2 * 1000000000000000000) →
      ∀ d, paidOut (blockPays total coins l) d ≤ Bank.amt d coins) := by
  by_cases hemp : l = []
  · rw [hemp]
    exact ⟨by simp [blockPays], fun _ d => amt_nonneg d coins hc⟩
  · have hT := hT hemp
    exact ⟨blockPays_nonneg _ _ _ hT hc hl, fun hside d =>
      Int.le_trans (paidOut_blockPays_le total coins d hT hc l hl) (sum_coinPay_le total d l hT hl hsum coins hc hside)⟩

theorem coinPay_of_nodup (total : Int) (d : String) (w R : Int) (coins : Coins)
    (hnd : (coins.map (·.1)).Nodup) (hm : (d, R) ∈ coins) : coinPay total d w coins = payout total R w := by
  rw [coinPay_eq, ← sum_ite_key (·.1) (fun c => payout total c.2 w) coins hnd hm]
  exact congrArg List.sum (List.map_congr_left (fun c _ => ite_congr (propext eq_comm) (fun _ => rfl) (fun _ => rfl)))

theorem sortedProvers_perm (t : Tracker) : (sortedProvers t).Perm t := List.mergeSort_perm _ _

theorem sortedProvers_wf (t : Tracker) (h : AMap.WF t) : AMap.WF (sortedProvers t) := by
  unfold AMap.WF AMap.keys at *
  exact ((sortedProvers_perm t).map (·.1)).nodup_iff.mpr h

theorem sortedProvers_get (t : Tracker) (h : AMap.WF t) (a : String) :
    AMap.get (sortedProvers t) a = AMap.get t a := by
  refine Option.ext (fun w => ?_)
  rw [← AMap.mem_iff_get_of_wf (sortedProvers_wf t h), ← AMap.mem_iff_get_of_wf h, (sortedProvers_perm t).mem_iff]

theorem sortedProvers_keys (t : Tracker) (a : String) : a ∈ (sortedProvers t).map (·.1) ↔ a ∈ AMap.keys t :=
  ((sortedProvers_perm t).map (·.1)).mem_iff

theorem sumBy_id_eq (t : Tracker) : AMap.sumBy id t = (t.map (·.2)).sum :=
  eq_sum_map (F := AMap.sumBy id) rfl (fun _ _ => rfl) t

theorem sortedProvers_sum (t : Tracker) : ((sortedProvers t).map (·.2)).sum = AMap.sumBy id t := by
  rw [sumBy_id_eq]; exact perm_sum_int ((sortedProvers_perm t).map (·.2))

theorem sum_paidTo_accts (d : String) (accts : List String) (hnd : accts.Nodup) : ∀ (lg : List Pay),
    (∀ e ∈ lg, e.1 ∈ accts) → (accts.map (fun a => paidTo lg a d)).sum = paidOut lg d
  | [], _ => sum_map_zero accts
  | e :: lg, h => by
    have ih := sum_paidTo_accts d accts hnd lg (fun x hx => h x (List.mem_cons_of_mem _ hx))
    simp only [paidTo, paidOut]
    rw [sum_map_add, ih]
    congr 1
    by_cases hd : e.2.1 = d
    · simp only [hd, and_true, if_true]
      exact (sum_indicator e.1 e.2.2 accts hnd).trans (if_pos (h e (by simp)))
    · simp only [hd, and_false, if_false]; exact sum_map_zero accts

/-- over a duplicate-free list of accounts that contains every recipient but the module account, what
the module account lost is what those accounts gained -/
theorem BalLog.conserved {a b : State} {lg : List Pay} (hl : BalLog a lg b) (accts : List String) (d : String)
    (hnd : accts.Nodup) (hM : a.moduleAcc ∉ accts) (hrec : ∀ e ∈ lg, e.1 = a.moduleAcc ∨ e.1 ∈ accts) :
    Bank.bal b.bank a.moduleAcc d + Bank.total b.bank accts d
      = Bank.bal a.bank a.moduleAcc d + Bank.total a.bank accts d := by
  have hall := sum_paidTo_accts d (a.moduleAcc :: accts) (List.nodup_cons.mpr ⟨hM, hnd⟩) lg
    (fun e he => List.mem_cons.mpr (hrec e he))
  simp only [List.map_cons, List.sum_cons] at hall
  have hothers : Bank.total b.bank accts d = Bank.total a.bank accts d + (accts.map (fun x => paidTo lg x d)).sum := by
    unfold Bank.total
    rw [← sum_map_add]
    exact congrArg List.sum (List.map_congr_left (fun x hx => by
      rw [hl.2 x d, if_neg (fun (e : x = a.moduleAcc) => hM (e ▸ hx))]; omega))
  rw [hothers, hl.2 a.moduleAcc d, if_pos rfl]
  omega

theorem addCoinTo_pos (cs : Coins) (d : String) (x : Int) (hcs : ∀ c ∈ cs, 0 < c.2) (hx : 0 < x) :
    ∀ c ∈ pullGauge.addCoinTo cs d x, 0 < c.2 := by
  intro c hc
  unfold pullGauge.addCoinTo at hc
  split at hc
  · obtain ⟨c', hc', rfl⟩ := List.mem_map.mp hc
    have := hcs c' hc'
    split
    · simp only; omega
    · exact this
  · rcases List.mem_append.mp hc with h | h
    · exact hcs c h
    · simp only [List.mem_singleton] at h; subst h; exact hx

theorem addCoinTo_denoms (cs : Coins) (d : String) (x : Int) (hcs : (cs.map (·.1)).Nodup) :
    ((pullGauge.addCoinTo cs d x).map (·.1)).Nodup := by
  unfold pullGauge.addCoinTo
  split
  · have : (cs.map (fun c => if c.1 = d then (c.1, c.2 + x) else c)).map (·.1) = cs.map (·.1) := by
      rw [List.map_map]
      exact List.map_congr_left (fun c _ => by simp only [Function.comp]; split <;> rfl)
    rw [this]; exact hcs
  · rename_i hany
    rw [List.map_append, List.nodup_append]
    refine ⟨hcs, by simp, ?_⟩
    intro a ha b hb
    simp only [List.map_cons, List.map_nil, List.mem_singleton] at hb
    subst hb
    intro e
    apply hany
    obtain ⟨c, hc, rfl⟩ := List.mem_map.mp ha
    rw [List.any_eq_true]
    exact ⟨c, hc, by simp [e]⟩

/-- A property of (state, released coins) holds at the end of the gauge pass when
closing a gauge keeps it, and so does every successful step of the coin loop of a stored gauge, run
with an elapsed fraction of at most one. -/
theorem pullGauges_ind (P : State × Coins → Prop) {s s2 : State} {now : Int} {coins : Coins}
    (hclose : ∀ st rl id, P (st, rl) → P ({ st with gauges := AMap.erase st.gauges id }, rl))
    (hstep : ∀ kv ∈ s.gauges, ∀ ratio : Dec, ratio.raw ≤ precision → ∀ c ∈ kv.2.coins, ∀ a b,
      P a → coinStep kv.2 ratio a c = .ok b → P b)
    (h : pullGauges s now = .ok (s2, coins)) (h0 : P (s, [])) : P (s2, coins) := by
  unfold pullGauges at h
  refine foldlM_except_inv_mem P _ s.gauges ?_ (s, []) (s2, coins) h0 h
  rintro ⟨st, rl⟩ kv ⟨st', rl'⟩ hkv hp hg
  rcases pullGauge_cases hg with ⟨e1, e2⟩ | ⟨ratio, hr, hc⟩
  · rw [e1, e2]; exact hclose _ _ _ hp
  · exact foldlM_except_inv_mem P _ kv.2.coins
      (fun a c b hcm ha hab => hstep kv hkv ratio hr c hcm a b ha hab) (st, rl) (st', rl') hp hc

theorem pullGauges_coins_inv (P : Coins → Prop)
    (hP : ∀ cs d x, P cs → 0 < x → P (pullGauge.addCoinTo cs d x))
    {s s2 : State} {now : Int} {coins : Coins} (h : pullGauges s now = .ok (s2, coins)) (h0 : P []) : P coins := by
  refine pullGauges_ind (fun acc => P acc.2) (fun _ _ _ hp => hp) ?_ h h0
  rintro kv - ratio - c - ⟨a, ra⟩ ⟨b, rb⟩ hpa hab
  obtain ⟨amt, -, ⟨-, -, e⟩ | ⟨hpos, -, e, -⟩⟩ := coinStep_spec hab
  · rw [e]; exact hpa
  · rw [e]; exact hP _ _ _ hpa hpos

theorem pullGauges_frame (s s2 : State) (now : Int) (coins : Coins) (h : pullGauges s now = .ok (s2, coins)) :
    s2 = { s with gauges := s2.gauges, bank := s2.bank } ∧ (∀ c ∈ coins, 0 < c.2) ∧ (coins.map (·.1)).Nodup := by
  obtain ⟨b, gs, e, -, -⟩ := pullGauges_spec h
  exact ⟨by rw [e], pullGauges_coins_inv (fun cs => ∀ c ∈ cs, 0 < c.2) addCoinTo_pos h (by simp),
    pullGauges_coins_inv (fun cs => (cs.map (·.1)).Nodup) (fun cs d x h _ => addCoinTo_denoms cs d x h) h (by simp)⟩

theorem manageRewards_split {s s' s2 : State} {h now : Int} {coins : Coins}
    (hok : manageRewards s h now = .ok s')
    (hg : pullGauges (filePass h s.files s []).1 now = .ok (s2, coins)) :
    (sortedProvers (filePass h s.files s []).2).foldlM
      (fun st pw => payProver st (blockTotal s.files) coins pw.1 pw.2) s2 = .ok s' := by
  obtain ⟨s2', coins', hg', hloop⟩ := manageRewards_spec hok
  cases hg.symm.trans hg'
  exact hloop

/-- a successful payout loop over a non-empty list did not divide by zero -/
theorem payLoop_ok_total_ne {total : Int} {coins : Coins} {l : List (String × Int)} {s s' : State}
    (h : l.foldlM (fun st pw => payProver st total coins pw.1 pw.2) s = .ok s') (hne : l ≠ []) : total ≠ 0 := by
  obtain ⟨pw, l', rfl⟩ := List.exists_cons_of_ne_nil hne
  rintro rfl
  rw [List.foldlM_cons, payProver_eq, show Dec.quo? (Dec.ofInt pw.2) (Dec.ofInt 0) = none from rfl] at h
  cases h

/-! ## the released coins arrive in the module account

Escrow accounts other than the module account and non-negative recorded amounts: every send of the
gauge pass goes through. -/

theorem amt_addCoinTo (d denom : String) (x : Int) (rel : Coins) (hnd : (rel.map (·.1)).Nodup) :
    Bank.amt d (pullGauge.addCoinTo rel denom x) = Bank.amt d rel + (if denom = d then x else 0) := by
  unfold pullGauge.addCoinTo
  split
  · -- with one entry per denomination, raising the entries of `denom` raises exactly one
    rename_i hany
    obtain ⟨c0, hc, hcd⟩ := List.any_eq_true.mp hany
    have hcd : c0.1 = denom := of_decide_eq_true hcd
    rw [amt_eq, amt_eq, List.map_map, ← sum_ite_key (·.1) (fun _ => if denom = d then x else 0) rel hnd hc,
      ← sum_map_add]
    refine congrArg List.sum (List.map_congr_left (fun c _ => ?_))
    simp only [Function.comp, hcd]
    by_cases h1 : c.1 = denom
    · rw [if_pos h1, if_pos h1.symm, ← h1]
      split <;> omega
    · rw [if_neg h1, if_neg (Ne.symm h1), Int.add_zero]
  · simp only [amt_eq, List.map_append, List.sum_append, List.map_cons, List.map_nil, List.sum_cons, List.sum_nil]
    omega

/-- the module account `M` holds what it held in the ledger `b0` plus the coins recorded as released
(one entry per denomination) -/
def Arrived (M : String) (b0 : Bank) (acc : State × Coins) : Prop :=
  acc.1.moduleAcc = M ∧ (acc.2.map (fun (c : Coin) => c.1)).Nodup ∧
  ∀ d, Bank.bal acc.1.bank M d = Bank.bal b0 M d + Bank.amt d acc.2

/-- if no escrow account of a stored gauge is the module account and
the recorded amounts are non-negative, the module account gains exactly `coins` in the gauge pass -/
theorem pullGauges_arrive (s s2 : State) (now : Int) (coins : Coins)
    (hacc : ∀ kv ∈ s.gauges, kv.2.account ≠ s.moduleAcc) (hamt : ∀ kv ∈ s.gauges, ∀ c ∈ kv.2.coins, 0 ≤ c.2)
    (h : pullGauges s now = .ok (s2, coins)) :
    ∀ d, Bank.bal s2.bank s2.moduleAcc d = Bank.bal s.bank s.moduleAcc d + Bank.amt d coins := by
  suffices key : Arrived s.moduleAcc s.bank (s2, coins) from fun d => by rw [key.1]; exact key.2.2 d
  refine pullGauges_ind (Arrived s.moduleAcc s.bank) (fun _ _ _ ha => ha) ?_ h
    ⟨rfl, List.nodup_nil, fun d => by simp [Bank.amt]⟩
  rintro kv hkv ratio hr c hcm ⟨st, r⟩ ⟨st2, r2⟩ ⟨hm, hn, hb⟩ hstep
  -- the amount never exceeds the escrow balance, so the send goes through
  rcases coinStep_funded hstep (gaugeAmt_le_bal ratio c.2 _ hr (hamt kv hkv c hcm)) with
    ⟨e1, e2⟩ | ⟨amt, b, hpos, hs, e1, e2⟩
  · rw [e1, e2]; exact ⟨hm, hn, hb⟩
  · rw [e1, e2]
    refine ⟨hm, addCoinTo_denoms _ _ _ hn, fun d => ?_⟩
    dsimp only at hm hb ⊢
    rw [Bank.bal_send hs s.moduleAcc d, amt_addCoinTo d c.1 amt r hn, hb d]
    simp only [hm, if_true, hacc kv hkv, if_false, Bank.amt]
    split <;> omega

end Canine.Storage.RewardBlock
