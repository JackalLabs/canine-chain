/-
Below the whole-block level of C03 (reward block) and C12 (payment gauges): the per-file loop of
`manageFile` described exactly, by one induction that carries the state it leaves (`LoopSpec`) and the
tracker as a fold over the passing keys (`runProofs_spec`); what one gauge does to the ledger, from
the inversions of `Canine/Proofs/Block.lean`; and the release schedule of a gauge (`ratioAt`,
`cumulative`) with its monotonicity, range and linearity.  Core Lean only.
-/
import Canine.Proofs.Block
namespace Canine.Storage

/-- the fields of the state that the per-file loop never touches -/
def SameRest (s' s : State) : Prop :=
  s'.payinfo = s.payinfo ∧ s'.collateral = s.collateral ∧ s'.gauges = s.gauges ∧ s'.attests = s.attests ∧
  s'.reports = s.reports ∧ s'.bank = s.bank ∧ s'.params = s.params ∧ s'.moduleAcc = s.moduleAcc ∧
  s'.collateralAcc = s.collateralAcc ∧ s'.polAcc = s.polAcc ∧ s'.feeAcc = s.feeAcc ∧ s'.blocked = s.blocked

theorem SameRest.refl (s : State) : SameRest s s := ⟨rfl, rfl, rfl, rfl, rfl, rfl, rfl, rfl, rfl, rfl, rfl, rfl⟩

theorem SameRest.trans {a b c : State} (h1 : SameRest a b) (h2 : SameRest b c) : SameRest a c := by
  obtain ⟨a1, a2, a3, a4, a5, a6, a7, a8, a9, a10, a11, a12⟩ := h1
  obtain ⟨b1, b2, b3, b4, b5, b6, b7, b8, b9, b10, b11, b12⟩ := h2
  exact ⟨a1.trans b1, a2.trans b2, a3.trans b3, a4.trans b4, a5.trans b5, a6.trans b6, a7.trans b7,
    a8.trans b8, a9.trans b9, a10.trans b10, a11.trans b11, a12.trans b12⟩

theorem burnContract_frame (s : State) (x : String) :
    SameRest (burnContract s x) s ∧ (burnContract s x).files = s.files ∧ (burnContract s x).files2 = s.files2 ∧
    (burnContract s x).proofs = s.proofs := by
  rw [burnContract_writes]
  exact ⟨SameRest.refl s, rfl, rfl, rfl⟩

def burnsOf (s : State) (h : Int) (f : File) (l : List PKey) (x : String) : Nat :=
  l.countP (fun pk => !passes s h f pk && (AMap.get s.proofs pk).isSome && decide (pk.1 = x))

def creditsOf (s : State) (h : Int) (f : File) (l : List PKey) (a : String) : Nat :=
  l.countP (fun pk => passes s h f pk && decide (creditName s pk = a))

theorem credit_getD (t : Tracker) (n a : String) (x : Int) :
    (AMap.get (credit t n x) a).getD 0 = (AMap.get t a).getD 0 + (if n = a then x else 0) := by
  unfold credit
  rw [AMap.get_set]
  by_cases hna : n = a
  · subst hna; simp
  · simp [hna]

namespace RewardBlock

def creditAll (t : Tracker) (l : List (String × Int)) : Tracker :=
  l.foldl (fun t e => credit t e.1 e.2) t

def wsum (a : String) (l : List (String × Int)) : Int := (l.map (fun e => if e.1 = a then e.2 else 0)).sum

theorem creditAll_nil (t : Tracker) : creditAll t [] = t := rfl
theorem creditAll_cons (t : Tracker) (e : String × Int) (l : List (String × Int)) :
    creditAll t (e :: l) = creditAll (credit t e.1 e.2) l := rfl

theorem creditAll_append (t : Tracker) (l1 l2 : List (String × Int)) :
    creditAll t (l1 ++ l2) = creditAll (creditAll t l1) l2 := by
  unfold creditAll; rw [List.foldl_append]

theorem creditAll_getD : ∀ (l : List (String × Int)) (t : Tracker) (a : String),
    (AMap.get (creditAll t l) a).getD 0 = (AMap.get t a).getD 0 + wsum a l
  | [], t, a => by simp [creditAll, wsum]
  | e :: l, t, a => by
    rw [creditAll_cons, creditAll_getD l, credit_getD]
    simp only [wsum, List.map_cons, List.sum_cons]; omega

def passEntriesOf (s : State) (h : Int) (f : File) (l : List PKey) : List (String × Int) :=
  (l.filter (passes s h f)).map (fun pk => (creditName s pk, f.fileSize))

theorem wsum_passEntriesOf (s : State) (h : Int) (f : File) (a : String) (l : List PKey) :
    wsum a (passEntriesOf s h f l) = f.fileSize * (creditsOf s h f l a : Int) := by
  induction l with
  | nil => simp [passEntriesOf, wsum, creditsOf]
  | cons pk l ih =>
    unfold passEntriesOf creditsOf wsum at *
    rw [List.filter_cons, List.countP_cons]
    cases hp : passes s h f pk
    · simpa using ih
    · simp only [if_true, List.map_cons, List.sum_cons, ih, Bool.true_and, decide_eq_true_eq]
      split
      · rw [Int.natCast_add, Int.mul_add]; simp; omega
      · simp

end RewardBlock
open RewardBlock

/-- Every field is stated against the initial `s` and `f`, not the state the loop has reached: a step
erases at most the record of its own key and changes only the prover list of the file, so `passes` of
a key not yet handled reads the same in both (`passes_congr`, in `LoopSpec.manageProof_eq`). -/
structure LoopSpec (h : Int) (l : List PKey) (s : State) (t : Tracker) (f : File)
    (r : State × Tracker × File) : Prop where
  file : r.2.2 = { f with proofs := f.proofs.filter (fun q => !decide (q ∈ l) || passes s h f q) }
  files : ∀ k, AMap.get r.1.files k = if k = f.key then some r.2.2 else AMap.get s.files k
  files2 : ∀ k, AMap.get r.1.files2 k = if k = f.key then some r.2.2 else AMap.get s.files2 k
  proofs : ∀ q, AMap.get r.1.proofs q = if q ∈ l ∧ passes s h f q = false then none else AMap.get s.proofs q
  providers : ∀ x, AMap.get r.1.providers x = (AMap.get s.providers x).map (bump (burnsOf s h f l x))
  tracker : ∀ a, (AMap.get r.2.1 a).getD 0 = (AMap.get t a).getD 0 + f.fileSize * (creditsOf s h f l a)
  rest : SameRest r.1 s

theorem LoopSpec.nil {h : Int} {s : State} {t : Tracker} {f : File}
    (hf : AMap.get s.files f.key = some f) (hf2 : AMap.get s.files2 f.key = some f) :
    LoopSpec h [] s t f (s, t, f) := by
  have hidx : ∀ (m : AMap FKey File), AMap.get m f.key = some f →
      ∀ k, AMap.get m k = if k = f.key then some f else AMap.get m k := by
    intro m hm k
    split
    · rename_i hk; rw [hk, hm]
    · rfl
  exact ⟨by rw [List.filter_eq_self.2 (by simp)], hidx _ hf, hidx _ hf2, by simp,
    fun x => by simp [burnsOf, map_bump_zero], by simp [creditsOf], SameRest.refl s⟩

/-- the state after the failing step for `pk`: the file is stored without `pk`, the record of `pk` is
erased and, if `b` (there was a record), the provider `pk.1` is burned once -/
theorem failStep_facts (s : State) (f : File) (pk : PKey) (b : Bool) :
    let s1 := if b then burnContract (dropProver s f pk).1 pk.1 else (dropProver s f pk).1
    let f1 := (dropProver s f pk).2
    s1.files = AMap.set s.files f.key f1 ∧ s1.files2 = AMap.set s.files2 f.key f1 ∧
    s1.proofs = AMap.erase s.proofs pk ∧
    (∀ x, AMap.get s1.providers x = (AMap.get s.providers x).map (bump (if b ∧ pk.1 = x then 1 else 0))) ∧
    SameRest s1 s := by
  cases b
  · exact ⟨rfl, rfl, rfl, fun x => by simp [dropProver, setFile, map_bump_zero], SameRest.refl s⟩
  · obtain ⟨b1, b2, b3, b4⟩ := burnContract_frame (dropProver s f pk).1 pk.1
    exact ⟨b2, b3, b4, fun x => by rw [if_pos rfl, burnContract_providers]; simp [dropProver, setFile], b1⟩

theorem burnsOf_snoc (s : State) (h : Int) (f : File) (l : List PKey) (pk : PKey) (x : String) :
    (burnsOf s h f (l ++ [pk]) x : Int) = burnsOf s h f l x +
      (if passes s h f pk = false ∧ (AMap.get s.proofs pk).isSome ∧ pk.1 = x then 1 else 0) := by
  unfold burnsOf; rw [List.countP_append]
  simp only [List.countP_cons, List.countP_nil, Bool.and_eq_true, Bool.not_eq_true', decide_eq_true_eq, and_assoc]
  split <;> rfl

theorem RewardBlock.passEntriesOf_snoc (s : State) (h : Int) (f : File) (l : List PKey) (pk : PKey) :
    passEntriesOf s h f (l ++ [pk]) =
      passEntriesOf s h f l ++ if passes s h f pk then [(creditName s pk, f.fileSize)] else [] := by
  unfold passEntriesOf
  rw [List.filter_append, List.map_append]
  cases hp : passes s h f pk <;> simp [hp]

/-- the keys kept once a new key `pk` has been handled too: `pk` itself only if it passes -/
theorem keep_snoc {l : List PKey} {pk : PKey} (hpk : pk ∉ l) (p : PKey → Bool) (q : PKey) :
    (!decide (q ∈ l ++ [pk]) || p q) = ((decide (q ≠ pk) || p pk) && (!decide (q ∈ l) || p q)) := by
  by_cases hq : q = pk
  · subst hq; simp [hpk]
  · simp [hq]

section step
variable {h : Int} {l : List PKey} {s : State} {t : Tracker} {f : File} {r : State × Tracker × File}
  {pk : PKey}

/-- the loop's description so far decides the step for a new listed key `pk` by `passes s h f pk` -/
theorem LoopSpec.manageProof_eq (H : LoopSpec h l s t f r) (hpk : pk ∉ l) (hm : pk ∈ f.proofs) :
    manageProof r.1 h r.2.1 r.2.2 pk =
      if passes s h f pk then (r.1, credit r.2.1 (creditName s pk) f.fileSize, r.2.2)
      else (if (AMap.get s.proofs pk).isSome then burnContract (dropProver r.1 r.2.2 pk).1 pk.1
            else (dropProver r.1 r.2.2 pk).1, r.2.1, (dropProver r.1 r.2.2 pk).2) := by
  have hpr : AMap.get r.1.proofs pk = AMap.get s.proofs pk := by rw [H.proofs]; simp [hpk]
  have hpass : passes r.1 h r.2.2 pk = passes s h f pk :=
    passes_congr hpr (by rw [H.file]) (by rw [H.file])
  cases hp : passes s h f pk
  · rw [manageProof_fail r.1 h r.2.1 r.2.2 pk (hpass.trans hp), removeProver_of_mem _ _ _ (by rw [H.file]; simp [hm, hpk]), hpr]
    rfl
  · rw [manageProof_pass r.1 h r.2.1 r.2.2 pk (hpass.trans hp), creditName_congr hpr, H.file]
    rfl

/-- one more key: the description of the loop over `l`, with the tracker as the fold it is, extends
to `l ++ [pk]` (the credit of every name is read off the fold) -/
theorem LoopSpec.step (H : LoopSpec h l s t f r) (ht : r.2.1 = creditAll t (passEntriesOf s h f l))
    (hpk : pk ∉ l) (hm : pk ∈ f.proofs) :
    LoopSpec h (l ++ [pk]) s t f (manageProof r.1 h r.2.1 r.2.2 pk) ∧
    (manageProof r.1 h r.2.1 r.2.2 pk).2.1 = creditAll t (passEntriesOf s h f (l ++ [pk])) := by
  rw [H.manageProof_eq hpk hm]
  obtain ⟨c, tr, f'⟩ := r
  obtain ⟨i1, i2, i3, i4, i5, -, i7⟩ := H
  dsimp only at i1 i2 i3 i4 i5 i7 ht ⊢
  cases hp : passes s h f pk
  · simp only [Bool.false_eq_true, if_false]
    have hteq : tr = creditAll t (passEntriesOf s h f (l ++ [pk])) := by
      rw [passEntriesOf_snoc, hp, if_neg Bool.false_ne_true, List.append_nil]; exact ht
    obtain ⟨e1, e2, e3, e4, e5⟩ := failStep_facts c f' pk (AMap.get s.proofs pk).isSome
    generalize (if (AMap.get s.proofs pk).isSome then burnContract (dropProver c f' pk).1 pk.1
      else (dropProver c f' pk).1) = s1 at *
    have hf1 : (dropProver c f' pk).2 =
        { f with proofs := f.proofs.filter (fun q => !decide (q ∈ l ++ [pk]) || passes s h f q) } := by
      show ({ f' with proofs := f'.proofs.filter (· ≠ pk) } : File) = _
      rw [i1]; simp only [List.filter_filter, keep_snoc hpk, hp, Bool.or_false]
    generalize (dropProver c f' pk).2 = f1 at *
    have hk : f'.key = f.key := by rw [i1]; rfl
    -- the file is stored again under its key, in both indexes
    have hset : ∀ (m m0 : AMap FKey File), (∀ k, AMap.get m k = if k = f.key then some f' else AMap.get m0 k) →
        ∀ k, AMap.get (AMap.set m f'.key f1) k = if k = f.key then some f1 else AMap.get m0 k := by
      intro m m0 hm k
      rw [AMap.get_set', hk, hm k]
      split <;> rfl
    refine ⟨⟨hf1, e1 ▸ hset _ _ i2, e2 ▸ hset _ _ i3, fun q => ?_, fun x => ?_,
      fun a => by rw [hteq, creditAll_getD, wsum_passEntriesOf], e5.trans i7⟩, hteq⟩
    · rw [e3, AMap.get_erase', i4 q]
      by_cases hq : q = pk
      · subst hq; simp [hp]
      · simp [hq]
    · rw [e4 x, i5 x, map_bump_bump, burnsOf_snoc]
      simp only [hp, true_and]
  · simp only [if_true]
    have hteq : credit tr (creditName s pk) f.fileSize = creditAll t (passEntriesOf s h f (l ++ [pk])) := by
      rw [passEntriesOf_snoc, hp, if_pos rfl, creditAll_append, ← ht]; rfl
    refine ⟨⟨?_, i2, i3, fun q => ?_, fun x => by rw [i5, burnsOf_snoc]; simp [hp],
      fun a => by rw [hteq, creditAll_getD, wsum_passEntriesOf], i7⟩, hteq⟩
    · show f' = _
      rw [i1]; simp only [keep_snoc hpk, hp, Bool.or_true, Bool.true_and]
    · rw [i4 q]
      by_cases hq : q = pk
      · subst hq; simp [hp]
      · simp [hq]

end step

/-- the loop over all listed keys of a stored file with a duplicate-free list: the state it leaves,
and the tracker as the fold over the passing keys, in list order -/
theorem runProofs_spec (h : Int) (s : State) (t : Tracker) (f : File) (hnd : f.proofs.Nodup)
    (hf : AMap.get s.files f.key = some f) (hf2 : AMap.get s.files2 f.key = some f) :
    LoopSpec h f.proofs s t f (runProofs h f.proofs s t f) ∧
    (runProofs h f.proofs s t f).2.1 = creditAll t (passEntriesOf s h f f.proofs) :=
  foldl_split_ind _ f.proofs (fun l r => LoopSpec h l s t f r ∧ r.2.1 = creditAll t (passEntriesOf s h f l))
    (fun _ pk _ _ hl H => H.1.step H.2 (not_mem_of_nodup_split hnd hl) (by rw [hl]; simp))
    f.proofs [] (s, t, f) rfl ⟨LoopSpec.nil hf hf2, rfl⟩

theorem LoopSpec.file_all {h : Int} {s : State} {t : Tracker} {f : File} {r : State × Tracker × File}
    (H : LoopSpec h f.proofs s t f r) : r.2.2 = { f with proofs := f.proofs.filter (passes s h f) } := by
  rw [H.file]; congr 1
  exact List.filter_congr (fun q hq => by simp [hq])

/-- the gauge account holds something (the emptiness test of `pullGauge`) -/
def accountNonEmpty (s : State) (g : Gauge) : Prop :=
  (s.bank.filter (fun p => p.1.1 = g.account ∧ p.2 ≠ 0)).isEmpty = false

theorem acctEmpty_iff (s : State) (g : Gauge) : acctEmpty s.bank g.account = true ↔ ¬ accountNonEmpty s g := by
  unfold acctEmpty accountNonEmpty; rw [Bool.not_eq_false]

theorem accountNonEmpty_of_bal (s : State) (g : Gauge) (d : String) (h : Bank.bal s.bank g.account d ≠ 0) :
    accountNonEmpty s g := by
  unfold Bank.bal at h
  cases hg : AMap.get s.bank (g.account, d) with
  | none => rw [hg] at h; exact absurd rfl h
  | some v =>
    rw [hg] at h
    unfold accountNonEmpty
    rw [List.isEmpty_eq_false_iff_exists_mem]
    exact ⟨_, List.mem_filter.mpr ⟨AMap.mem_of_get hg, by simpa using h⟩⟩

theorem pullGauge_dead (s : State) (now : Int) (released : Coins) (g : Gauge)
    (h : g.endT < now ∨ g.endT ≤ g.startT ∨ ¬ accountNonEmpty s g) :
    pullGauge s now released g = .ok ({ s with gauges := AMap.erase s.gauges g.id }, released) := by
  rw [pullGauge_eq, if_pos (by rw [acctEmpty_iff]; exact h)]

/-- with an elapsed fraction of at most one, the amount released never exceeds the escrow balance -/
theorem gaugeAmt_le_bal (r : Dec) (A bal : Int) (hr : r.raw ≤ precision) (hA : 0 ≤ A) :
    gaugeAmt r A bal ≤ bal := by
  have hx : (Dec.sub (Dec.mul r (Dec.ofInt A)) (Dec.ofInt (A - bal))).raw ≤ bal * precision := by
    have h1 : r.raw * A ≤ A * precision := by
      rw [Int.mul_comm A]; exact Int.mul_le_mul_of_nonneg_right hr hA
    show (Dec.mul r (Dec.ofInt A)).raw - (A - bal) * precision ≤ bal * precision
    rw [Dec.mul_ofInt_exact, Int.sub_mul]
    omega
  unfold gaugeAmt Dec.trunc chopTrunc
  rw [tdiv_eq]
  exact Int.le_trans (Int.tdiv_le_tdiv precision_pos hx)
    (Int.le_of_eq (Int.mul_tdiv_cancel _ (Int.ne_of_gt precision_pos)))

theorem inRange_of_nonneg {x : Int} (h0 : 0 ≤ x) (h1 : x ≤ I64.maxV) : I64.inRange x = true := by
  unfold I64.inRange
  have : I64.minV ≤ x := Int.le_trans (by decide) h0
  simp only [this, h1, decide_true, Bool.and_self]

theorem coinStep_sends {g : Gauge} {ratio : Dec} {st : State} {rl : Coins} {c : Coin} {amt : Int}
    (hamt : gaugeAmt ratio c.2 (Bank.bal st.bank g.account c.1) = amt) (hr : I64.inRange amt = true)
    (h0 : 0 ≤ amt) (hle : amt ≤ Bank.bal st.bank g.account c.1) :
    ∃ b, Bank.send st.bank g.account st.moduleAcc (coinsOf c.1 amt) = some b ∧
      coinStep g ratio (st, rl) c =
        .ok ({ st with bank := b }, if amt = 0 then rl else pullGauge.addCoinTo rl c.1 amt) := by
  obtain ⟨b, hb⟩ := send_coinsOf (dst := st.moduleAcc) h0 hle
  refine ⟨b, hb, ?_⟩
  unfold coinStep
  simp only [hamt, hr, Bool.not_true, Bool.false_eq_true, if_false]
  unfold coinsOf at hb
  by_cases hz : amt = 0
  · rw [if_pos hz] at hb
    cases hb
    simp only [hz, if_true]
  · rw [if_neg hz] at hb
    simp only [hz, if_false, show ¬ amt < 0 by omega, hb]

theorem coinStep_funded {g : Gauge} {ratio : Dec} {st st' : State} {rl rl' : Coins} {c : Coin}
    (h : coinStep g ratio (st, rl) c = .ok (st', rl'))
    (hle : gaugeAmt ratio c.2 (Bank.bal st.bank g.account c.1) ≤ Bank.bal st.bank g.account c.1) :
    (st' = st ∧ rl' = rl) ∨
    ∃ amt b, 0 < amt ∧ Bank.send st.bank g.account st.moduleAcc [(c.1, amt)] = some b ∧
      st' = { st with bank := b } ∧ rl' = pullGauge.addCoinTo rl c.1 amt := by
  obtain ⟨amt, rfl, ⟨-, h1⟩ | ⟨hpos, -, e, ⟨b, hb, e'⟩ | ⟨hn, -⟩⟩⟩ := coinStep_spec h
  · exact Or.inl h1
  · exact Or.inr ⟨_, b, hpos, hb, e', e⟩
  · obtain ⟨b, hb⟩ := Bank.send_single (dst := st.moduleAcc) hpos hle
    rw [hb] at hn; cases hn

/-- whole microseconds of the gauge's life (difference of the `UnixMicro` of the two instants) -/
def totalUs (startT endT : Int) : Int := Int.tdiv endT 1000 - Int.tdiv startT 1000
def leftUs (endT now : Int) : Int := Int.tdiv endT 1000 - Int.tdiv now 1000
/-- the elapsed fraction `1 - left/total` as `pullGauge` computes it -/
def ratioAt (startT endT now : Int) : Dec :=
  Dec.sub Dec.one ((Dec.quo? (Dec.ofInt (leftUs endT now)) (Dec.ofInt (totalUs startT endT))).getD Dec.zero)
/-- the cumulative amount a gauge of `A` units has released by `now` -/
def cumulative (startT endT now A : Int) : Int := Dec.trunc (Dec.mul (ratioAt startT endT now) (Dec.ofInt A))

/-- `now` lies in the life of a gauge (Unix nanoseconds, non-negative) whose start and end fall
into different whole microseconds (`endT ≥ startT + 1000` is enough) -/
structure InLife (startT endT now : Int) : Prop where
  epoch : 0 ≤ startT
  started : startT ≤ now
  notEnded : now ≤ endT
  long : startT / 1000 < endT / 1000

theorem totalUs_eq {startT endT now : Int} (h : InLife startT endT now) :
    totalUs startT endT = endT / 1000 - startT / 1000 ∧ 1 ≤ totalUs startT endT := by
  obtain ⟨h0, h1, h2, h3⟩ := h
  unfold totalUs
  rw [Int.tdiv_eq_ediv_of_nonneg (by omega), Int.tdiv_eq_ediv_of_nonneg (by omega)]
  omega

theorem leftUs_eq {startT endT now : Int} (h : InLife startT endT now) :
    0 ≤ leftUs endT now ∧ leftUs endT now ≤ totalUs startT endT ∧
    totalUs startT endT - leftUs endT now = now / 1000 - startT / 1000 := by
  have a := tdiv1000_mono h.notEnded
  have b := tdiv1000_mono h.started
  have e1 : Int.tdiv now 1000 = now / 1000 :=
    Int.tdiv_eq_ediv_of_nonneg (Int.le_trans h.epoch h.started)
  have e2 : Int.tdiv startT 1000 = startT / 1000 := Int.tdiv_eq_ediv_of_nonneg h.epoch
  unfold leftUs totalUs
  rw [← e1, ← e2]
  omega

theorem ratioAt_raw {startT endT now : Int} (h : InLife startT endT now) :
    Dec.quo? (Dec.ofInt (leftUs endT now)) (Dec.ofInt (totalUs startT endT))
      = some ⟨rawShare (totalUs startT endT) (leftUs endT now)⟩ ∧
    (ratioAt startT endT now).raw = precision - rawShare (totalUs startT endT) (leftUs endT now) := by
  have ht := (totalUs_eq h).2
  have hl := (leftUs_eq h).1
  have hq := quo_ofInt_eq (totalUs startT endT) (leftUs endT now) hl (by omega)
  refine ⟨hq, ?_⟩
  unfold ratioAt
  rw [hq]
  simp [Dec.sub, Dec.one, Dec.ofInt]

theorem ratioAt_range {startT endT now : Int} (h : InLife startT endT now) :
    0 ≤ (ratioAt startT endT now).raw ∧ (ratioAt startT endT now).raw ≤ precision := by
  rw [(ratioAt_raw h).2]
  have ht := (totalUs_eq h).2
  obtain ⟨hl0, hl, _⟩ := leftUs_eq h
  have := rawShare_le_one (totalUs startT endT) (leftUs endT now) (by omega) hl
  have := rawShare_nonneg (totalUs startT endT) (leftUs endT now) hl0 (by omega)
  omega

theorem cumulative_eq {startT endT now : Int} (A : Int) (hA : 0 ≤ A) (h : InLife startT endT now) :
    cumulative startT endT now A = (ratioAt startT endT now).raw * A / precision ∧
    cumulative startT endT now A * precision ≤ (ratioAt startT endT now).raw * A ∧
    (ratioAt startT endT now).raw * A < cumulative startT endT now A * precision + precision := by
  have hr := (ratioAt_range h).1
  have hnn : 0 ≤ (Dec.mul (ratioAt startT endT now) (Dec.ofInt A)).raw := by
    rw [Dec.mul_ofInt_exact]; exact Int.mul_nonneg hr hA
  have hb := Dec.trunc_bounds _ hnn
  unfold cumulative
  rw [Dec.trunc_of_nonneg _ hnn] at *
  rw [Dec.mul_ofInt_exact] at *
  exact ⟨rfl, hb⟩

theorem pullGauge_live (s : State) (now : Int) (rel : Coins) (g : Gauge)
    (hl : InLife g.startT g.endT now) (hne : accountNonEmpty s g) :
    pullGauge s now rel g = g.coins.foldlM (coinStep g (ratioAt g.startT g.endT now)) (s, rel) := by
  have hq := (ratioAt_raw hl).1
  have hlive : ¬ (g.endT < now ∨ g.endT ≤ g.startT ∨ acctEmpty s.bank g.account = true) := by
    rw [acctEmpty_iff]
    have := hl.notEnded; have := hl.long
    rintro (h | h | h)
    · omega
    · omega
    · exact h hne
  rw [pullGauge_eq, if_neg hlive]
  unfold ratioAt
  unfold leftUs totalUs at hq ⊢
  rw [hq]; rfl

/-- the integer core of linearity: with `q` the rounded quotient `l/T` (scale `P`) and
`c = ⌊(P − q)·A/P⌋`, `c` is within one of `⌊(T − l)·A/T⌋`: the elapsed fraction `P − q` obeys the
same rounding bounds as a quotient `(T − l)/T` would -/
theorem linear_core (P q l T A c : Int) (hP : 2 ≤ P) (hT : 0 < T) (hA : 0 ≤ A) (hA' : A ≤ P)
    (b1 : 2 * (q * T) ≤ 2 * l * P + T) (b2 : (2 * l * P - T) * P - 2 * T < 2 * (q * T) * P)
    (c1 : c * P ≤ (P - q) * A) (c2 : (P - q) * A < c * P + P) :
    c ≤ (T - l) * A / T + 1 ∧ (T - l) * A / T - 1 ≤ c := by
  have f1 := Int.mul_le_mul_of_nonneg_right b1 (show (0:Int) ≤ P by omega)
  have m1 : (2 * (T - l) * P - T) * P - 2 * T < 2 * ((P - q) * T) * P := by clear b2 c1 c2; grind
  have m2 : 2 * ((P - q) * T) * P < (2 * (T - l) * P + T) * P + 2 * T := by clear b1 f1 c1 c2; grind
  have hF1 : (T - l) * A / T * T ≤ (T - l) * A := Int.ediv_mul_le _ (by omega)
  have hF2 : (T - l) * A < (T - l) * A / T * T + T := by
    have h := Int.lt_ediv_add_one_mul_self ((T - l) * A) hT
    rw [Int.add_mul] at h; omega
  exact ⟨floor_close_upper P (P - q) (T - l) T A ((T - l) * A / T) c hP hT hA hA' m2 hF2 c1,
         floor_close_lower P (P - q) (T - l) T A ((T - l) * A / T) c hP hT hA hA' m1 hF1 c2⟩

/-- `A ≤ precision`: the elapsed fraction is rounded at `10⁻¹⁸`, and its error times `A` has to stay
below one unit (`floor_close_upper`, `floor_close_lower`). -/
theorem cumulative_linear {startT endT now : Int} (A : Int) (hA : 0 ≤ A) (hA' : A ≤ precision)
    (h : InLife startT endT now) :
    let e := now / 1000 - startT / 1000
    let T := endT / 1000 - startT / 1000
    cumulative startT endT now A ≤ e * A / T + 1 ∧ e * A / T - 1 ≤ cumulative startT endT now A := by
  intro e T
  obtain ⟨hT, hT1⟩ := totalUs_eq h
  obtain ⟨_, c1, c2⟩ := cumulative_eq A hA h
  rw [(ratioAt_raw h).2] at c1 c2
  rw [show T = totalUs startT endT from hT.symm,
    show e = totalUs startT endT - leftUs endT now from (leftUs_eq h).2.2.symm]
  obtain ⟨b1, b2⟩ := rawShare_bounds (totalUs startT endT) (leftUs endT now) (by omega)
  exact linear_core precision _ _ _ A _ precision_ge_two (by omega) hA hA' b1 b2 c1 c2

theorem cumulative_mono {startT endT now1 now2 : Int} (A : Int) (hA : 0 ≤ A)
    (h1 : InLife startT endT now1) (h2 : InLife startT endT now2) (hle : now1 ≤ now2) :
    cumulative startT endT now1 A ≤ cumulative startT endT now2 A := by
  obtain ⟨e1, _, _⟩ := cumulative_eq A hA h1
  obtain ⟨e2, _, _⟩ := cumulative_eq A hA h2
  rw [e1, e2, (ratioAt_raw h1).2, (ratioAt_raw h2).2]
  apply Int.ediv_le_ediv precision_pos
  apply Int.mul_le_mul_of_nonneg_right _ hA
  have hT := (totalUs_eq h1).2
  have := rawShare_mono (totalUs startT endT) _ _ (by omega)
    (Int.sub_le_sub_left (tdiv1000_mono hle) (Int.tdiv endT 1000))
  unfold leftUs
  omega

theorem cumulative_range {startT endT now : Int} (A : Int) (hA : 0 ≤ A) (h : InLife startT endT now) :
    0 ≤ cumulative startT endT now A ∧ cumulative startT endT now A ≤ A := by
  obtain ⟨e1, _, _⟩ := cumulative_eq A hA h
  obtain ⟨r0, r1⟩ := ratioAt_range h
  have hp := precision_pos
  rw [e1]
  constructor
  · exact Int.ediv_nonneg (Int.mul_nonneg r0 hA) (by omega)
  · have h1 : (ratioAt startT endT now).raw * A ≤ precision * A := Int.mul_le_mul_of_nonneg_right r1 hA
    have h2 := Int.ediv_le_ediv hp h1
    rwa [Int.mul_ediv_cancel_left _ (by omega)] at h2

theorem cumulative_at_end {startT endT : Int} (A : Int) (hA : 0 ≤ A) (h : InLife startT endT endT) :
    cumulative startT endT endT A = A := by
  obtain ⟨e1, _, _⟩ := cumulative_eq A hA h
  have hl : leftUs endT endT = 0 := by unfold leftUs; omega
  rw [e1, (ratioAt_raw h).2, hl, rawShare_zero, Int.sub_zero, Int.mul_ediv_cancel_left _ (by have := precision_pos; omega)]

theorem cumulative_at_start {startT endT : Int} (A : Int) (hA : 0 ≤ A) (h : InLife startT endT startT) :
    cumulative startT endT startT A = 0 := by
  obtain ⟨e1, _, _⟩ := cumulative_eq A hA h
  have hl : leftUs endT startT = totalUs startT endT := rfl
  rw [e1, (ratioAt_raw h).2, hl, rawShare_self _ (by have := (totalUs_eq h).2; omega)]
  simp

/-- the amount the release step computes, when `W` was withdrawn before -/
theorem release_amount {startT endT now : Int} (A W : Int) (hA : 0 ≤ A) (h : InLife startT endT now)
    (hW0 : 0 ≤ W) (hW : W ≤ cumulative startT endT now A) :
    Dec.trunc (Dec.sub (Dec.mul (ratioAt startT endT now) (Dec.ofInt A)) (Dec.ofInt W))
      = cumulative startT endT now A - W := by
  obtain ⟨_, c1, _⟩ := cumulative_eq A hA h
  have hp := precision_pos
  apply Dec.trunc_sub_ofInt _ _ hW0
  rw [Dec.mul_ofInt_exact]
  exact Int.le_trans (Int.mul_le_mul_of_nonneg_right hW (by omega)) c1

end Canine.Storage
