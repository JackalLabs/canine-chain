/-
Gauge invariant for C05: the ledger.

`Moves P b b'`: ledger `b'` is reached from `b` by successful single-coin transfers whose senders all
satisfy `P`.  Every storage message and the reward block change the ledger only in this way, so
(1) an account that no `P`-sender is can only have been credited, and (2) the ledger stays
non-negative with the supply of every denomination within int64 (`BankOk`) — which bounds every
balance by the supply and so keeps `Int64()` in range.
-/
import Canine.Proofs.Bank
import Canine.Basic.Int64
namespace Canine.Storage.GI
open Bank

inductive Moves (P : String → Prop) : Bank → Bank → Prop
  | refl (b : Bank) : Moves P b b
  | step {b b1 b2 : Bank} {src dst d : String} {x : Int} :
      P src → sendCoin b src dst d x = some b1 → Moves P b1 b2 → Moves P b b2

theorem Moves.trans {P : String → Prop} {a b c : Bank} (h1 : Moves P a b) (h2 : Moves P b c) : Moves P a c := by
  induction h1 with
  | refl => exact h2
  | step hp hs _ ih => exact .step hp hs (ih h2)

theorem Moves.of_eq {P : String → Prop} {a b : Bank} (h : b = a) : Moves P a b := by subst h; exact .refl _

theorem Moves.of_send {P : String → Prop} {src dst : String} (hp : P src) :
    ∀ {cs : Coins} {b b' : Bank}, send b src dst cs = some b' → Moves P b b'
  | [], b, b', h => by simp only [send, Option.some.injEq] at h; subst h; exact .refl _
  | (d, x) :: cs, b, b', h => by
    simp only [send, Option.bind_eq_some_iff] at h
    obtain ⟨b1, hb1, hb2⟩ := h
    exact .step hp hb1 (Moves.of_send hp hb2)

theorem Moves.of_sent {P Q : String → Prop} {b b' : Bank} (h : Sent P Q b b') : Moves P b b' := by
  induction h with
  | refl => exact .refl _
  | step hp _ hs _ ih => exact (Moves.of_send hp hs).trans ih

theorem Moves.sent {P : String → Prop} {b b' : Bank} (h : Moves P b b') : Sent P (fun _ => True) b b' := by
  induction h with
  | refl => exact .refl _
  | @step b b1 b2 src dst d x hp hs _ ih =>
    refine .step (dst := dst) (cs := [(d, x)]) hp trivial ?_ ih
    rw [send, hs]; rfl

theorem Moves.mono {P Q : String → Prop} (hpq : ∀ a, P a → Q a) {a b : Bank} (h : Moves P a b) : Moves Q a b :=
  .of_sent (h.sent.mono hpq fun _ hq => hq)

theorem Moves.bal_ge {P : String → Prop} {b b' : Bank} (h : Moves P b b') (a : String) (ha : ¬ P a) (d : String) :
    bal b a d ≤ bal b' a d :=
  h.sent.le_bal_of_not_sender ha d

def supply : Bank → String → Int
  | [], _ => 0
  | ((_, d'), v) :: t, d => (if d' = d then v else 0) + supply t d

theorem bal_cons (k : String × String) (v : Int) (t : Bank) (a d : String) :
    bal ((k, v) :: t) a d = if k = (a, d) then v else bal t a d := by
  unfold bal
  simp only [AMap.get]
  split <;> simp

theorem supply_set (b : Bank) (a d' : String) (v : Int) (d : String) :
    supply (AMap.set b (a, d') v) d = supply b d + (if d' = d then v - bal b a d' else 0) := by
  induction b with
  | nil => simp [AMap.set, supply, bal]
  | cons p t ih =>
    obtain ⟨⟨a0, d0⟩, v0⟩ := p
    by_cases hk : (a0, d0) = (a, d')
    · cases hk
      simp only [AMap.set, if_true, supply, bal_cons]
      have : (if d' = d then v else 0) = (if d' = d then v0 else 0) + (if d' = d then v - v0 else 0) := by
        split <;> omega
      omega
    · simp only [AMap.set, hk, if_false, supply, bal_cons, ih]
      omega

/-- `supply ≤ I64.maxV` is an assumption on the chain (minting is outside the model), not something
the SDK guarantees; the storage module itself only moves coins (`Moves`), so it keeps it -/
structure BankOk (b : Bank) : Prop where
  nonneg : ∀ kv ∈ b, 0 ≤ kv.2
  supply : ∀ d, supply b d ≤ I64.maxV

theorem bal_nonneg {b : Bank} (h : ∀ kv ∈ b, 0 ≤ kv.2) (a d : String) : 0 ≤ bal b a d := by
  unfold bal
  cases hg : AMap.get b (a, d) with
  | none => simp
  | some v => simpa using h _ (AMap.mem_of_get hg)

theorem BankOk.bal_nonneg {b : Bank} (h : BankOk b) (a d : String) : 0 ≤ bal b a d :=
  GI.bal_nonneg h.nonneg a d

theorem bal_le_supply {b : Bank} (h : ∀ kv ∈ b, 0 ≤ kv.2) (a d : String) :
    0 ≤ supply b d ∧ bal b a d ≤ supply b d := by
  induction b with
  | nil => simp [supply, bal]
  | cons p t ih =>
    obtain ⟨⟨a0, d0⟩, v0⟩ := p
    have h0 : 0 ≤ v0 := h ((a0, d0), v0) (by simp)
    have := ih (fun kv hkv => h kv (List.mem_cons_of_mem _ hkv))
    rw [bal_cons]
    simp only [supply]
    by_cases hk : (a0, d0) = (a, d)
    · cases hk; simp only [if_true]; omega
    · simp only [hk, if_false]; split <;> omega

theorem BankOk.bal_le {b : Bank} (h : BankOk b) (a d : String) : bal b a d ≤ I64.maxV :=
  Int.le_trans (bal_le_supply h.nonneg a d).2 (h.supply d)

theorem nonneg_credit {b : Bank} (h : ∀ kv ∈ b, 0 ≤ kv.2) (a d : String) (x : Int) (hx : 0 ≤ bal b a d + x) :
    ∀ kv ∈ Bank.credit b a d x, 0 ≤ kv.2 := by
  intro kv hkv
  unfold Bank.credit at hkv
  rcases AMap.mem_set hkv with hm | e
  · exact h kv hm
  · subst e; exact hx

theorem supply_credit (b : Bank) (a d' : String) (x : Int) (d : String) :
    supply (Bank.credit b a d' x) d = supply b d + (if d' = d then x else 0) := by
  unfold Bank.credit
  rw [supply_set]; split <;> omega

theorem BankOk.sendCoin {b b' : Bank} {src dst d : String} {x : Int} (h : BankOk b)
    (hs : sendCoin b src dst d x = some b') : BankOk b' := by
  have hp := sendCoin_pos hs
  rw [Bank.sendCoin, if_neg (by omega), if_neg (by omega)] at hs
  cases hs
  have n1 := nonneg_credit h.nonneg src d (-x) (by omega)
  have b1 := GI.bal_nonneg n1 dst d
  refine ⟨nonneg_credit n1 dst d x (by omega), fun d2 => ?_⟩
  rw [supply_credit, supply_credit]
  have := h.supply d2
  split <;> omega

theorem BankOk.moves {P : String → Prop} {b b' : Bank} (hm : Moves P b b') (h : BankOk b) : BankOk b' := by
  induction hm with
  | refl => exact h
  | step _ hs _ ih => exact ih (h.sendCoin hs)

end Canine.Storage.GI
