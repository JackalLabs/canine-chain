/-
The name service along whole executions (C08 and C16 over runs).

A run is a list of events `(height, Op)` applied from a state with the chain's commit rule: a
message whose handler fails commits nothing.  A position in a run is a split
`evs = pre ++ (h, op) :: post`; the states immediately before and after the event are `run s₀ pre`
and `run s₀ (pre ++ [(h, op)])`.

That a stored listing was created by the account that then owned the name is a statement about the
past, which the state does not keep (a listing holds the signer string of the `List` message that
wrote it, nothing of the name's record at that moment).  So a *ghost* runs along with the state: for
every listing key, what was in front of the last successful `List` message for it.  The ghost only
records; that what it recorded says "the signer owned the live name" is an invariant of runs.
-/
import Canine.Proofs.Rns
namespace Canine.Rns

def Mono (evs : List (Int × Op)) : Prop := evs.Pairwise (fun a b => a.1 ≤ b.1)

instance (evs : List (Int × Op)) : Decidable (Mono evs) :=
  inferInstanceAs (Decidable (evs.Pairwise (fun a b => a.1 ≤ b.1)))

theorem Mono.tail {e : Int × Op} {evs : List (Int × Op)} (h : Mono (e :: evs)) : Mono evs :=
  (List.pairwise_cons.mp h).2

theorem Mono.right {a b : List (Int × Op)} (h : Mono (a ++ b)) : Mono b :=
  (List.pairwise_append.mp h).2.1

theorem Mono.left {a b : List (Int × Op)} (h : Mono (a ++ b)) : Mono a :=
  (List.pairwise_append.mp h).1

theorem Mono.all_le_of_last_le {evs : List (Int × Op)} (hm : Mono evs) {T : Int}
    (hlast : ∀ e, evs.getLast? = some e → e.1 ≤ T) : ∀ e ∈ evs, e.1 ≤ T := by
  -- every event is the last one or stands before it
  rcases eq_nil_or_snoc evs with rfl | ⟨init, last, rfl⟩
  · simp
  · have hl := hlast last List.getLast?_concat
    intro e he
    rcases List.mem_append.mp he with hi | hi
    · exact Int.le_trans ((List.pairwise_append.mp hm).2.2 e hi last (List.mem_singleton_self _)) hl
    · rw [List.mem_singleton.mp hi]; exact hl

theorem run_append (s : State) (a b : List (Int × Op)) : run s (a ++ b) = run (run s a) b := by
  induction a generalizing s with
  | nil => rfl
  | cons e rest ih => obtain ⟨h, op⟩ := e; simp only [List.cons_append, run]; exact ih _

theorem run_snoc (s : State) (pre : List (Int × Op)) (h : Int) (op : Op) :
    run s (pre ++ [(h, op)]) = stepT (run s pre) h op := by
  rw [run_append]; rfl

theorem run_snoc_some {s s' : State} {pre : List (Int × Op)} {h : Int} {op : Op}
    (hstep : step (run s pre) h op = some s') : run s (pre ++ [(h, op)]) = s' := by
  rw [run_snoc, stepT_some hstep]

theorem run_split (s : State) {evs pre post : List (Int × Op)} {h : Int} {op : Op}
    (hsplit : evs = pre ++ (h, op) :: post) : run s evs = run (run s (pre ++ [(h, op)])) post := by
  rw [hsplit, ← run_append, List.append_assoc]; rfl

/-- the configuration part of the state (module accounts, blocked list, address table) is the same
in every state of a run -/
theorem run_cfg (s : State) (evs : List (Int × Op)) :
    (run s evs).moduleAcc = s.moduleAcc ∧ (run s evs).polAcc = s.polAcc ∧
    (run s evs).blocked = s.blocked ∧ (run s evs).canon = s.canon :=
  run_inv (P := fun t => t.moduleAcc = s.moduleAcc ∧ t.polAcc = s.polAcc ∧ t.blocked = s.blocked ∧
      t.canon = s.canon) evs
    (fun _ _ _ _ ⟨a, b, c, d⟩ hs =>
      let ⟨a', b', c', d'⟩ := step_cfg hs; ⟨a'.trans a, b'.trans b, c'.trans c, d'.trans d⟩)
    ⟨rfl, rfl, rfl, rfl⟩

theorem acct_of_canon {s s' : State} (e : s'.canon = s.canon) (x : String) : acct s' x = acct s x :=
  congrArg (AMap.get · x) e

theorem acct_run (s : State) (evs : List (Int × Op)) (x : String) : acct (run s evs) x = acct s x :=
  acct_of_canon (run_cfg s evs).2.2.2 x

theorem acct_step {s s' : State} {h : Int} {op : Op} (hstep : step s h op = some s') (x : String) :
    acct s' x = acct s x :=
  acct_of_canon (step_cfg hstep).2.2.2 x

theorem step_eq_handle {s : State} {h : Int} {op : Op} {cc : String} (hv : validateBasic op = true)
    (ho : otherAddrsValid s op = true) (hc : acct s op.creator = some cc) :
    step s h op = handle s h cc op := by
  simp [step, hv, ho, hc]

/-- the address table is idempotent: a canonical spelling is its own canonical spelling
(`AccAddressFromBech32(a.String()).String() = a.String()`); `CanonOK` of Props/C08 is this. -/
def CanonIdem (s : State) : Prop := ∀ x y, acct s x = some y → acct s y = some y

/-- enough to look at the canonical spellings the table holds (decidable on a concrete table) -/
theorem canonIdem_of_mem {s : State} (h : ∀ kv ∈ s.canon, AMap.get s.canon kv.2 = some kv.2) :
    CanonIdem s :=
  fun _ _ hxy => h _ (AMap.mem_of_get hxy)

theorem canonIdem_run {s : State} (hc : CanonIdem s) (evs : List (Int × Op)) : CanonIdem (run s evs) := by
  intro x y h
  rw [acct_run] at h ⊢
  exact hc x y h

/-- the store key of the name record a message argument (lower-cased) refers to -/
def keyOf (n : String) : Option String := (nameAndTLD n).map (fun p => nameKey p.1 p.2)

theorem keyOf_of {n nm tld key : String} (hnt : nameAndTLD n = some (nm, tld)) (hk : nameKey nm tld = key) :
    keyOf n = some key := by
  simp [keyOf, hnt, hk]

theorem keyOf_inv {n key : String} (h : keyOf n = some key) :
    ∃ nm tld, nameAndTLD n = some (nm, tld) ∧ nameKey nm tld = key := by
  obtain ⟨⟨nm, tld⟩, hnt, hk⟩ := Option.map_eq_some_iff.mp h
  exact ⟨nm, tld, hnt, hk⟩

theorem get_set_or {V : Type} {m : AMap String V} {k key : String} {w v : V} {C : Prop}
    (hw : AMap.get m key = some w) (hC : k = key → AMap.get (AMap.set m k v) key = some v → C) :
    AMap.get (AMap.set m k v) key = some w ∨ C := by
  by_cases hk : k = key
  · exact .inr (hC hk (hk ▸ AMap.get_set_self m k v))
  · exact .inl ((AMap.get_set_other hk).trans hw)

theorem get_set_stored_or {V : Type} {m : AMap String V} {k key : String} {w w2 v : V} {C : Prop}
    (hw : AMap.get m key = some w) (hw2 : AMap.get m k = some w2)
    (hC : k = key → w2 = w → AMap.get (AMap.set m k v) key = some v → C) :
    AMap.get (AMap.set m k v) key = some w ∨ C :=
  get_set_or hw fun hk => hC hk (Option.some.inj ((hk ▸ hw2).symm.trans hw))

/-- A live name's record after any successful message: either exactly as it was; or sold through a
stored listing carrying the owner's string (owner := buyer string, data reset); or transferred /
handed to an accepted bidder by a message whose signer's canonical address is the recorded owner;
or rewritten by the owner (renewal, update, add / delete record) with the same owner string and an
expiry that is not smaller. -/
theorem step_live_name {s s' : State} {h : Int} {op : Op} {key : String} {w : NameRec}
    (hw : AMap.get s.names key = some w) (hlive : h ≤ w.expires) (hstep : step s h op = some s') :
    AMap.get s'.names key = some w ∨
    (∃ c raw n sale, op = .buy c raw n ∧ keyOf n = some key ∧ AMap.get s.forsale n = some sale ∧
        sale.owner = w.value ∧ c ≠ w.value ∧
        AMap.get s'.names key = some { w with value := c, data := "{}" }) ∨
    (∃ c raw n r, op = .transfer c raw n r ∧ keyOf n = some key ∧ acct s c = some w.value ∧
        AMap.get s'.names key = some { w with value := r, data := "{}" }) ∨
    (∃ c raw n b bd, op = .acceptBid c raw n b ∧ keyOf n = some key ∧ acct s c = some w.value ∧
        AMap.get s.bids (b ++ n) = some bd ∧
        AMap.get s'.names key = some { w with value := bd.bidder, data := "{}" }) ∨
    (∃ w', AMap.get s'.names key = some w' ∧ w'.value = w.value ∧ w.expires ≤ w'.expires ∧
        (acct s op.creator = some w.value ∨ op.creator = w.value)) := by
  obtain ⟨cc, hcc, hd⟩ := step_delivered hstep
  cases hd with
  | register hnt _ hy hex =>
    refine get_set_or hw ?_
    rintro rfl h2
    obtain ⟨hv, rfl⟩ := (regExpiry_live hw hlive).mp hex
    exact .inr (.inr (.inr ⟨_, h2, hv.symm,
      Int.le_add_of_nonneg_right (Int.mul_nonneg (by omega) (by decide)), .inl (hv ▸ hcc)⟩))
  | buy hsale hnt hw2 _ hne hown =>
    refine get_set_stored_or hw hw2 ?_
    rintro rfl rfl h2
    exact .inl ⟨_, _, _, _, rfl, keyOf_of hnt rfl, hsale, hown.symm, Ne.symm hne, h2⟩
  | acceptBid hnt hw2 _ hown _ hb =>
    refine get_set_stored_or hw hw2 ?_
    rintro rfl rfl h2
    exact .inr (.inr (.inl ⟨_, _, _, _, _, rfl, keyOf_of hnt rfl, hown ▸ hcc, hb, h2⟩))
  | transfer hnt hw2 _ hown =>
    refine get_set_stored_or hw hw2 ?_
    rintro rfl rfl h2
    exact .inr (.inl ⟨_, _, _, _, rfl, keyOf_of hnt rfl, hown ▸ hcc, h2⟩)
  | update _ hw2 hown =>
    refine get_set_stored_or hw hw2 ?_
    rintro rfl rfl h2
    exact .inr (.inr (.inr ⟨_, h2, rfl, Int.le_refl _, .inl (hown ▸ hcc)⟩))
  | addRecord _ hw2 _ hown | delRecord _ _ hw2 _ hown =>
    refine get_set_stored_or hw hw2 ?_
    rintro rfl rfl h2
    exact .inr (.inr (.inr ⟨_, h2, rfl, Int.le_refl _, .inr hown⟩))
  | init _ _ _ hnl =>
    refine get_set_or hw ?_
    rintro rfl -
    simp [isLive, hw, hlive] at hnl
  | _ => exact .inl hw

/-- No message but `List` writes a listing (let alone its `owner` field): a listing stored under
`k` after a successful message either was stored there, identically, before — or the message was
`List` for `k`, `k` carried no listing, the new listing names the signer string as owner, and the
name it refers to was live and carried that very string as its owner. -/
theorem step_forsale_frame {s s' : State} {h : Int} {op : Op} (hstep : step s h op = some s')
    {k : String} {l : Listing} (hl : AMap.get s'.forsale k = some l) :
    AMap.get s.forsale k = some l ∨
    (∃ c raw pr p key w, op = .list c raw k pr p ∧ AMap.get s.forsale k = none ∧
        l = { name := k, owner := c, priceRaw := pr, price := p } ∧
        keyOf k = some key ∧ AMap.get s.names key = some w ∧ w.value = c ∧ h ≤ w.expires) := by
  obtain ⟨cc, -, hd⟩ := step_delivered hstep
  cases hd with
  | list hfree hnt hw hown _ hlive =>
    rw [AMap.get_set] at hl
    split at hl
    · rename_i hk; subst hk
      exact .inr ⟨_, _, _, _, _, _, rfl, hfree, (Option.some.inj hl).symm, keyOf_of hnt rfl, hw, hown, hlive⟩
    · exact .inl hl
  | delist | buy => exact .inl (AMap.get_erase_some hl)
  | _ => exact .inl hl

/-- What was observed when a `List` message succeeded. -/
structure ListingOrigin where
  /-- the signer string of the `List` message, as sent -/
  signer : String
  /-- the account that string denotes (`AccAddressFromBech32(signer).String()`) -/
  account : Option String
  /-- the height the message was delivered at -/
  height : Int
  /-- the record of the name the listing key refers to, as it was at that moment -/
  nameThen : Option NameRec
  deriving DecidableEq, Repr, Inhabited

/-- listing key ↦ the last successful `List` for that key -/
abbrev Ghost := AMap String ListingOrigin

/-- The ghost is written by successful `List` messages and by nothing else; what it records is read
off the message, the address table and the name store only. -/
def ghostStep (s : State) (g : Ghost) (h : Int) (op : Op) : Ghost :=
  match op with
  | .list c _ n _ _ =>
    if (step s h op).isSome then
      AMap.set g n { signer := c, account := acct s c, height := h,
                     nameThen := (keyOf n).bind (AMap.get s.names) }
    else g
  | _ => g

def ghostRun (s : State) (g : Ghost) : List (Int × Op) → Ghost
  | [] => g
  | (h, op) :: rest => ghostRun (stepT s h op) (ghostStep s g h op) rest

theorem ghostRun_append (s : State) (g : Ghost) (a b : List (Int × Op)) :
    ghostRun s g (a ++ b) = ghostRun (run s a) (ghostRun s g a) b := by
  induction a generalizing s g with
  | nil => rfl
  | cons e rest ih => obtain ⟨h, op⟩ := e; simp only [List.cons_append, run, ghostRun]; exact ih _ _

/-- The listing `l` was created by the account recorded in `o`, which owned the then live name:
the listing's `owner` field is the signer string of the `List` message recorded in `o`, that string
denotes an account (the one recorded), and the name record at that moment was live and carried that
string as its owner. -/
def CreatedByOwner (s : State) (l : Listing) (o : ListingOrigin) : Prop :=
  o.signer = l.owner ∧
  (∃ a, o.account = some a ∧ acct s l.owner = some a) ∧
  (∃ w, o.nameThen = some w ∧ w.value = o.signer ∧ o.height ≤ w.expires)

/-- Every stored listing has a recorded origin, and was created by the
account recorded there, which owned the (then live) name at that moment. -/
def ListingInv (s : State) (g : Ghost) : Prop :=
  ∀ k l, AMap.get s.forsale k = some l → ∃ o, AMap.get g k = some o ∧ CreatedByOwner s l o

theorem listingInv_of_no_listings (s : State) (g : Ghost) (h : s.forsale = []) : ListingInv s g := by
  intro k l hl; rw [h] at hl; simp at hl

theorem ghostStep_list {s s' : State} (g : Ghost) {h : Int} {c raw n pr : String} {p : Option Coin}
    (hstep : step s h (.list c raw n pr p) = some s') :
    ghostStep s g h (.list c raw n pr p) = AMap.set g n
      { signer := c, account := acct s c, height := h, nameThen := (keyOf n).bind (AMap.get s.names) } := by
  simp only [ghostStep, hstep, Option.isSome_some, if_true]

theorem ghostStep_none {s : State} (g : Ghost) {h : Int} {op : Op} (hstep : step s h op = none) :
    ghostStep s g h op = g := by
  unfold ghostStep; split
  · rw [hstep]; rfl
  · rfl

theorem listingInv_step {s s' : State} {g : Ghost} {h : Int} {op : Op}
    (hinv : ListingInv s g) (hstep : step s h op = some s') : ListingInv s' (ghostStep s g h op) := by
  intro k l hl
  have hacct : ∀ x, acct s' x = acct s x := acct_step hstep
  rcases step_forsale_frame hstep hl with hold | ⟨c, raw, pr, p, key, w, rfl, hnone, rfl, hkey, hw, hown, hlive⟩
  · -- the listing was there: its origin is untouched (a `List` for an occupied key fails)
    obtain ⟨o, ho, h1, ⟨a, ha, ha'⟩, h3⟩ := hinv k l hold
    refine ⟨o, ?_, h1, ⟨a, ha, (hacct _).trans ha'⟩, h3⟩
    cases op with
    | list c raw n pr p =>
      obtain ⟨_, -, hd⟩ := step_delivered hstep
      cases hd with | list hfree =>
      have hnk : n ≠ k := fun e => by rw [e, hold] at hfree; cases hfree
      rw [ghostStep_list g hstep, AMap.get_set_other hnk]; exact ho
    | _ => exact ho
  · -- a new listing: the ghost records exactly this message
    obtain ⟨cc, hcc, -⟩ := step_delivered hstep
    rw [ghostStep_list g hstep]
    refine ⟨_, AMap.get_set_self _ _ _, rfl, ⟨cc, hcc, (hacct _).trans hcc⟩, w, ?_, hown, hlive⟩
    simp [hkey, hw]

theorem listingInv_stepT {s : State} {g : Ghost} (hinv : ListingInv s g) (h : Int) (op : Op) :
    ListingInv (stepT s h op) (ghostStep s g h op) := by
  cases hs : step s h op with
  | none => rw [stepT_none hs, ghostStep_none g hs]; exact hinv
  | some s' => rw [stepT_some hs]; exact listingInv_step hinv hs

theorem listingInv_run {s : State} {g : Ghost} (hinv : ListingInv s g) (evs : List (Int × Op)) :
    ListingInv (run s evs) (ghostRun s g evs) := by
  induction evs generalizing s g with
  | nil => exact hinv
  | cons e rest ih =>
    obtain ⟨h, op⟩ := e
    exact ih (listingInv_stepT hinv h op)

/-- One successful message, any of the 13: a live name's record is still there afterwards and its
`expires` is at least what it was. -/
theorem step_live_expiry_mono {s s' : State} {h : Int} {op : Op} {key : String} {w : NameRec}
    (hw : AMap.get s.names key = some w) (hlive : h ≤ w.expires) (hstep : step s h op = some s') :
    ∃ w', AMap.get s'.names key = some w' ∧ w.expires ≤ w'.expires := by
  rcases step_live_name hw hlive hstep with h1 | ⟨c, raw, n, sale, -, -, -, -, -, h2⟩ |
      ⟨c, raw, n, r, -, -, -, h3⟩ | ⟨c, raw, n, b, bd, -, -, -, -, h4⟩ | ⟨w', h5, -, hle, -⟩
  · exact ⟨w, h1, Int.le_refl _⟩
  · exact ⟨_, h2, Int.le_refl _⟩
  · exact ⟨_, h3, Int.le_refl _⟩
  · exact ⟨_, h4, Int.le_refl _⟩
  · exact ⟨w', h5, hle⟩

theorem stepT_live_expiry_mono {s : State} {h : Int} {key : String} {w : NameRec}
    (hw : AMap.get s.names key = some w) (hlive : h ≤ w.expires) (op : Op) :
    ∃ w', AMap.get (stepT s h op).names key = some w' ∧ w.expires ≤ w'.expires := by
  cases hs : step s h op with
  | none => rw [stepT_none hs]; exact ⟨w, hw, Int.le_refl _⟩
  | some s' => rw [stepT_some hs]; exact step_live_expiry_mono hw hlive hs

/-- Along a list of events all delivered at heights `≤ E`, a name whose expiry is at least `E`
keeps a record with expiry at least `E` (so it stays live all along). -/
theorem run_live_expiry_ge {E : Int} (evs : List (Int × Op)) :
    ∀ (s : State) (key : String) (w : NameRec), AMap.get s.names key = some w → E ≤ w.expires →
      (∀ e ∈ evs, e.1 ≤ E) →
      ∃ w', AMap.get (run s evs).names key = some w' ∧ E ≤ w'.expires :=
  fun _ key w hw hE hall =>
    run_inv (P := fun t => ∃ w', AMap.get t.names key = some w' ∧ E ≤ w'.expires) evs
      (fun e he _ _ ⟨_, hw1, h1⟩ hs =>
        let ⟨w2, hw2, h2⟩ := step_live_expiry_mono hw1 (Int.le_trans (hall e he) h1) hs
        ⟨w2, hw2, Int.le_trans h1 h2⟩)
      ⟨w, hw, hE⟩

/-- the name `key` is registered, belongs to the account `a` and does not expire before `T` -/
def OwnedFor (s : State) (key a : String) (T : Int) : Prop :=
  ∃ w, AMap.get s.names key = some w ∧ acct s w.value = some a ∧ T ≤ w.expires

/-- The successful event by which the account `a` lets go of the name `key`: a transfer or a bid
acceptance signed by (a spelling of) `a`, or somebody's purchase through a stored listing that `a`
created (origin recorded in the ghost). -/
def GaveAway (s : State) (g : Ghost) (a key : String) (h : Int) (op : Op) : Prop :=
  (step s h op).isSome ∧
  ((∃ c raw n r, op = .transfer c raw n r ∧ keyOf n = some key ∧ acct s c = some a) ∨
   (∃ c raw n b, op = .acceptBid c raw n b ∧ keyOf n = some key ∧ acct s c = some a) ∨
   (∃ c raw n sale o, op = .buy c raw n ∧ keyOf n = some key ∧ AMap.get s.forsale n = some sale ∧
      AMap.get g n = some o ∧ CreatedByOwner s sale o ∧ o.account = some a))

/-- One delivered message at a height within the term: the name is still `a`'s with the term
intact — or this very message is `a` giving it away. -/
theorem owned_stepT {s : State} {g : Ghost} (hcan : CanonIdem s) (hinv : ListingInv s g)
    {key a : String} {T : Int} (hown : OwnedFor s key a T) {h : Int} (hT : h ≤ T) (op : Op) :
    OwnedFor (stepT s h op) key a T ∨ GaveAway s g a key h op := by
  obtain ⟨w, hw, ha, hTw⟩ := hown
  cases hs : step s h op with
  | none => rw [stepT_none hs]; exact .inl ⟨w, hw, ha, hTw⟩
  | some s' =>
  rw [stepT_some hs]
  have hacct : ∀ x, acct s' x = acct s x := acct_step hs
  have hok : (step s h op).isSome := by rw [hs]; rfl
  -- a signer whose canonical address is the recorded owner string signs for `a`
  have hwa : ∀ c, acct s c = some w.value → acct s c = some a := fun c hc =>
    hc.trans ((hcan _ _ hc).symm.trans ha)
  rcases step_live_name hw (Int.le_trans hT hTw) hs with h1 | ⟨c, raw, n, sale, hop, hkey, hsale, hso, -, -⟩ |
      ⟨c, raw, n, r, hop, hkey, hc, -⟩ | ⟨c, raw, n, b, bd, hop, hkey, hc, -, -⟩ | ⟨w', h5, hv, hle, -⟩
  · exact .inl ⟨w, h1, (hacct _).trans ha, hTw⟩
  · obtain ⟨o, ho, hcr⟩ := hinv n sale hsale
    refine .inr ⟨hok, .inr (.inr ⟨c, raw, n, sale, o, hop, hkey, hsale, ho, hcr, ?_⟩)⟩
    obtain ⟨-, ⟨a', ha1, ha2⟩, -⟩ := hcr
    rw [hso, ha] at ha2
    rw [ha1, ha2]
  · exact .inr ⟨hok, .inl ⟨c, raw, n, r, hop, hkey, hwa c hc⟩⟩
  · exact .inr ⟨hok, .inr (.inl ⟨c, raw, n, b, hop, hkey, hwa c hc⟩)⟩
  · exact .inl ⟨w', h5, by rw [hacct, hv]; exact ha, Int.le_trans hTw hle⟩

/-- Along a list of events all delivered within the term: at the end the name is still `a`'s with
the term intact — or at some point of the run, up to which it was, `a` gave it away. -/
theorem owned_run (evs : List (Int × Op)) :
    ∀ (s : State) (g : Ghost), CanonIdem s → ListingInv s g →
      ∀ (key a : String) (T : Int), OwnedFor s key a T → (∀ e ∈ evs, e.1 ≤ T) →
      OwnedFor (run s evs) key a T ∨
      ∃ pre e post, evs = pre ++ e :: post ∧ OwnedFor (run s pre) key a T ∧
        GaveAway (run s pre) (ghostRun s g pre) a key e.1 e.2 := by
  induction evs with
  | nil => intro s g _ _ key a T hown _; left; exact hown
  | cons e rest ih =>
    intro s g hcan hinv key a T hown hall
    obtain ⟨h, op⟩ := e
    rcases owned_stepT hcan hinv hown (hall (h, op) (by simp)) op with hkeep | hgone
    · rcases ih (stepT s h op) (ghostStep s g h op) (canonIdem_run hcan [(h, op)])
          (listingInv_stepT hinv h op) key a T hkeep
          (fun e he => hall e (List.mem_cons_of_mem _ he)) with hfin | ⟨pre, e, post, hsplit, hpre, hg⟩
      · left; exact hfin
      · right
        exact ⟨(h, op) :: pre, e, post, by rw [hsplit]; rfl, hpre, hg⟩
    · right; exact ⟨[], (h, op), rest, rfl, hown, hgone⟩

/-- what a message must look like to be a way for `a` to let go of `key` (read off the message
alone): a transfer or bid acceptance of that name signed by a spelling of `a`, or any purchase of it -/
def MayGiveAway (s : State) (a key : String) : Op → Prop
  | .transfer c _ n _ => acct s c = some a ∧ keyOf n = some key
  | .acceptBid c _ n _ => acct s c = some a ∧ keyOf n = some key
  | .buy _ _ n => keyOf n = some key
  | _ => False

theorem GaveAway.may {s s0 : State} {g : Ghost} {a key : String} {h : Int} {op : Op}
    (hg : GaveAway s g a key h op) (hacct : ∀ x, acct s x = acct s0 x) : MayGiveAway s0 a key op := by
  obtain ⟨-, ⟨c, raw, n, r, rfl, hk, hc⟩ | ⟨c, raw, n, b, rfl, hk, hc⟩ | ⟨c, raw, n, sale, o, rfl, hk, -⟩⟩ := hg
  · exact ⟨by rw [← hacct]; exact hc, hk⟩
  · exact ⟨by rw [← hacct]; exact hc, hk⟩
  · exact hk

end Canine.Rns
