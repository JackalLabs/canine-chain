/- Lemmas about the ledger: what a successful multi-coin `send` does to every balance. -/
import Canine.Basic.Bank
namespace Canine
namespace Bank

/-- total amount of denomination `d` in a coin list -/
def amt (d : String) : Coins → Int
  | [] => 0
  | (d', x) :: cs => (if d' = d then x else 0) + amt d cs

private theorem ite_add_zero (p : Prop) [Decidable p] (x y : Int) :
    (if p then x + y else 0) = (if p then x else 0) + (if p then y else 0) := by
  split <;> omega

private theorem ite_and_zero (p q : Prop) [Decidable p] [Decidable q] (x : Int) :
    (if p ∧ q then x else 0) = if p then (if q then x else 0) else 0 := by
  by_cases hp : p <;> simp [hp]

theorem bal_send {src dst : String} : ∀ {cs : Coins} {b b' : Bank},
    send b src dst cs = some b' → ∀ (a d : String),
    bal b' a d = bal b a d + (if dst = a then amt d cs else 0) - (if src = a then amt d cs else 0)
  | [], b, b', h, a, d => by
    cases h; simp [amt]
  | (d', x) :: cs, b, b', h, a, d => by
    obtain ⟨b1, h1, h⟩ := Option.bind_eq_some_iff.mp h
    rw [bal_send h a d, bal_sendCoin h1 a d]
    -- each side becomes a sum of tests on one account with one amount, which `omega` takes as atoms
    simp only [amt, Prod.mk.injEq, ite_and_zero, ite_add_zero]
    omega

theorem amt_nonneg_of_send {src dst : String} : ∀ {cs : Coins} {b b' : Bank},
    send b src dst cs = some b' → ∀ d, 0 ≤ amt d cs
  | [], _, _, _, d => Int.le_refl 0
  | (d', x) :: cs, b, b', h, d => by
    obtain ⟨b1, h1, h⟩ := Option.bind_eq_some_iff.mp h
    have := amt_nonneg_of_send h d
    have hp := (sendCoin_pos h1).1
    simp only [amt]; split <;> omega

theorem bal_send_other {src dst x : String} {cs : Coins} {b b' : Bank} (h : send b src dst cs = some b')
    (h1 : src ≠ x) (h2 : dst ≠ x) (d : String) : bal b' x d = bal b x d := by
  have := bal_send h x d
  simp only [h1, h2, if_false] at this
  rw [this]; omega

theorem amt_single (d : String) (x : Int) : amt d [(d, x)] = x := by simp [amt]

theorem send_single {b : Bank} {src dst d : String} {x : Int} (h0 : 0 < x) (h1 : x ≤ bal b src d) :
    ∃ b', send b src dst [(d, x)] = some b' := by
  simp only [send, sendCoin]
  rw [if_neg (by omega), if_neg (by omega)]
  exact ⟨_, rfl⟩

/-- `b'` arises from `b` by successful transfers whose senders satisfy `P` and whose recipients
satisfy `Q`: what the reward block's release and payout loops do to the ledger. -/
inductive Sent (P Q : String → Prop) : Bank → Bank → Prop
  | refl (b : Bank) : Sent P Q b b
  | step {b b1 b' : Bank} {src dst : String} {cs : Coins} :
      P src → Q dst → send b src dst cs = some b1 → Sent P Q b1 b' → Sent P Q b b'

namespace Sent
variable {P Q : String → Prop} {b b1 b' : Bank}

theorem trans (h1 : Sent P Q b b1) (h2 : Sent P Q b1 b') : Sent P Q b b' := by
  induction h1 with
  | refl => exact h2
  | step hp hq hs _ ih => exact .step hp hq hs (ih h2)

theorem one {src dst : String} {cs : Coins} (hp : P src) (hq : Q dst)
    (h : send b src dst cs = some b') : Sent P Q b b' :=
  .step hp hq h (.refl b')

theorem mono {P' Q' : String → Prop} (hP : ∀ a, P a → P' a) (hQ : ∀ a, Q a → Q' a)
    (h : Sent P Q b b') : Sent P' Q' b b' := by
  induction h with
  | refl => exact .refl _
  | step hp hq hs _ ih => exact .step (hP _ hp) (hQ _ hq) hs ih

theorem bal_le_of_not_recipient (h : Sent P Q b b') {a : String} (ha : ¬ Q a) (d : String) :
    bal b' a d ≤ bal b a d := by
  induction h with
  | refl => exact Int.le_refl _
  | @step b b1 b' src dst cs _ hq hs _ ih =>
    have hne : dst ≠ a := fun e => ha (e ▸ hq)
    have h1 := bal_send hs a d
    have h2 := amt_nonneg_of_send hs d
    simp only [hne, if_false] at h1
    split at h1 <;> omega

/-- `Q` is arbitrary: `a` may pay itself -/
theorem bal_le_of_sole_sender {a : String} (h : Sent (· = a) Q b b') (d : String) : bal b' a d ≤ bal b a d := by
  induction h with
  | refl => exact Int.le_refl _
  | @step b b1 b' src dst cs hp _ hs _ ih =>
    have h1 := bal_send hs a d
    have h2 := amt_nonneg_of_send hs d
    simp only [hp, if_true] at h1
    split at h1 <;> omega

theorem le_bal_of_not_sender (h : Sent P Q b b') {a : String} (ha : ¬ P a) (d : String) :
    bal b a d ≤ bal b' a d := by
  induction h with
  | refl => exact Int.le_refl _
  | @step b b1 b' src dst cs hp _ hs _ ih =>
    have hne : src ≠ a := fun e => ha (e ▸ hp)
    have h1 := bal_send hs a d
    have h2 := amt_nonneg_of_send hs d
    simp only [hne, if_false] at h1
    split at h1 <;> omega

theorem bal_eq (h : Sent P Q b b') {a : String} (h1 : ¬ P a) (h2 : ¬ Q a) (d : String) :
    bal b' a d = bal b a d :=
  Int.le_antisymm (h.bal_le_of_not_recipient h2 d) (h.le_bal_of_not_sender h1 d)

theorem bal_add {src dst : String} (h : Sent (· = src) (· = dst) b b') (hne : src ≠ dst) (d : String) :
    bal b' src d + bal b' dst d = bal b src d + bal b dst d := by
  induction h with
  | refl => rfl
  | @step b b1 b' s t cs hp hq hs _ ih =>
    subst hp hq
    have h1 := bal_send hs s d
    have h2 := bal_send hs t d
    simp only [hne, hne.symm, if_true, if_false] at h1 h2
    omega

end Sent

end Bank
end Canine
