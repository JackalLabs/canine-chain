/-
Gauge invariant for C05: what a message does to ledger and gauge store.

* messages that move no coins keep ledger, gauge store and module accounts (`SameCore`);
* `initProvider` / `shutdownProvider` move coins between the signer's account and the collateral
  account, neither of which is an escrow account (`Transfer`);
* `postFile` (pay-once) and `buyStorage` debit the signer, deposit into the (new or same-block)
  gauge exactly the amount they add to its record, and afterwards only pay out of the module account
  (`DepositX`, `Deposit`).  `deposit_record` says what that does to the record and the escrow
  account; that the invariant is kept (`deposit_inv`) and, in Proofs/GaugeExactMsg.lean, exactness
  follow from it.
-/
import Canine.Proofs.GaugeInvBlock
namespace Canine.Storage
open Bank GI

def Transfer (s s' : State) (src dst : String) : Prop :=
  (∃ cs, send s.bank src dst cs = some s'.bank) ∧ s'.gauges = s.gauges ∧ s'.moduleAcc = s.moduleAcc ∧
  s'.collateralAcc = s.collateralAcc

theorem GaugeInv.transfer {E : EscrowScheme} {s s' : State} {t : Int} {src dst : String} (hinv : GaugeInv E s t)
    (h : Transfer s s' src dst) (hsrc : ∀ kv ∈ s.gauges, src ≠ kv.2.account) : GaugeInv E s' t := by
  obtain ⟨⟨cs, hs⟩, hg, hm, hc⟩ := h
  exact hinv.frame hg hm hc (Moves.of_send (P := fun a => a = src) rfl hs) fun kv hkv e => hsrc kv hkv e.symm

theorem coinsOk_coinsOf {x : Int} (hx : 0 ≤ x) : CoinsOk (coinsOf "ujkl" x) := by
  unfold coinsOf; split
  · exact Or.inl rfl
  · exact Or.inr ⟨x, hx, rfl⟩

/-- `sdk.Coins.Add` on the records the module builds: still well-formed, amounts add up -/
theorem addCoins_ok {a b : Coins} (ha : CoinsOk a) (hb : CoinsOk b) :
    CoinsOk (addCoins a b) ∧ amt "ujkl" (addCoins a b) = amt "ujkl" a + amt "ujkl" b := by
  rcases ha with rfl | ⟨x, hx, rfl⟩
  · rw [show addCoins [] b = b by cases b <;> rfl]
    exact ⟨hb, (Int.zero_add _).symm⟩
  · rcases hb with rfl | ⟨y, hy, rfl⟩
    · exact ⟨Or.inr ⟨x, hx, rfl⟩, (Int.add_zero _).symm⟩
    · rw [addCoins, if_pos rfl]
      exact ⟨Or.inr ⟨x + y, Int.add_nonneg hx hy, rfl⟩, by rw [amt_single, amt_single, amt_single]⟩

/-- what the two gauge-creating messages do to ledger and gauge store: the signer pays the module
account, the module account deposits `x` ujkl into the escrow account while `NewGauge` records `x`
(adding to an existing record of the same id), later transfers leave the module account only -/
def Deposit (s s' : State) (now : Int) (creator gid gacc : String) : Prop :=
  ∃ (x endT : Int) (cs pay : Coins) (b1 b2 : Bank),
    newCoins "ujkl" x = some cs ∧ now + 1999 ≤ endT ∧
    send s.bank creator s.moduleAcc pay = some b1 ∧
    send b1 s.moduleAcc gacc cs = some b2 ∧
    Moves (fun a => a = s.moduleAcc) b2 s'.bank ∧
    s'.gauges = (newGauge' s now gid gacc cs endT).gauges ∧
    s'.moduleAcc = s.moduleAcc ∧ s'.collateralAcc = s.collateralAcc

/-- the record `NewGauge` writes -/
def mergedCoins (s : State) (gid : String) (cs : Coins) : Coins :=
  match AMap.get s.gauges gid with
  | some g => addCoins g.coins cs
  | none => cs

theorem newGauge'_gauges (s : State) (now : Int) (gid gacc : String) (cs : Coins) (endT : Int) :
    (newGauge' s now gid gacc cs endT).gauges
      = AMap.set s.gauges gid
          { id := gid, startT := now, endT := endT, coins := mergedCoins s gid cs, account := gacc } := rfl

/-- The record `NewGauge` writes is well
formed and the deposit adds `cs` to the escrow account; either no gauge with this id was stored and
the record is `cs`, or one was: it has this escrow account, which the signer's payment did not touch,
and its record has grown by `cs`. -/
theorem deposit_record {E : EscrowScheme} {s : State} {now : Int} {creator gid gacc : String} {cs pay : Coins}
    {b1 b2 : Bank} (hinv : GaugeInv E s now) (hcs : CoinsOk cs)
    (h1 : send s.bank creator s.moduleAcc pay = some b1) (h2 : send b1 s.moduleAcc gacc cs = some b2)
    (hacc : gacc = E.accOf gid) (hm : gacc ≠ s.moduleAcc) (hcr : ∀ kv ∈ s.gauges, creator ≠ kv.2.account) :
    CoinsOk (mergedCoins s gid cs) ∧ bal b2 gacc "ujkl" = bal b1 gacc "ujkl" + amt "ujkl" cs ∧
    ((AMap.get s.gauges gid = none ∧ mergedCoins s gid cs = cs) ∨
     ∃ g0, AMap.get s.gauges gid = some g0 ∧ g0.account = gacc ∧
       bal b1 gacc "ujkl" = bal s.bank gacc "ujkl" ∧
       amt "ujkl" (mergedCoins s gid cs) = amt "ujkl" g0.coins + amt "ujkl" cs) := by
  have hb2 : bal b2 gacc "ujkl" = bal b1 gacc "ujkl" + amt "ujkl" cs := by
    have e2 := bal_send h2 gacc "ujkl"
    rwa [if_pos rfl, if_neg (Ne.symm hm), Int.sub_zero] at e2
  unfold mergedCoins
  cases hget : AMap.get s.gauges gid with
  | none => exact ⟨hcs, hb2, Or.inl ⟨rfl, rfl⟩⟩
  | some g0 =>
    have hmem := AMap.mem_of_get hget
    have ha0 : g0.account = gacc := by rw [hacc]; exact (hinv.ids _ hmem).2
    obtain ⟨c1, c2⟩ := addCoins_ok (hinv.ok _ hmem).coins hcs
    exact ⟨c1, hb2, Or.inr ⟨g0, rfl, ha0, bal_send_other h1 (ha0 ▸ hcr _ hmem) (Ne.symm hm) _, c2⟩⟩

/-- The new (or same-block) gauge starts now, so it is on
schedule iff nothing is missing from escrow — and the deposit equals what is added to the record. -/
theorem deposit_inv {E : EscrowScheme} {s s' : State} {now : Int} {creator gid gacc : String}
    (hinv : GaugeInv E s now) (hd : Deposit s s' now creator gid gacc)
    (hacc : gacc = E.accOf gid) (hm : gacc ≠ s.moduleAcc) (hc : gacc ≠ s.collateralAcc)
    (hsame : ∀ g, AMap.get s.gauges gid = some g → g.startT = now)
    (hcr : ∀ kv ∈ s.gauges, creator ≠ kv.2.account) : GaugeInv E s' now := by
  obtain ⟨x, endT, cs, pay, b1, b2, hcs, hend, h1, h2, h3, hg, hma, hca⟩ := hd
  rw [newGauge'_gauges] at hg
  have hcsok : CoinsOk cs := (newCoins_some hcs).2 ▸ coinsOk_coinsOf (newCoins_some hcs).1
  obtain ⟨hMok, hb2, hrec⟩ := deposit_record hinv hcsok h1 h2 hacc hm hcr
  have hb1ok : BankOk b1 := hinv.bank.moves (Moves.of_send (P := fun _ => True) trivial h1)
  -- nothing is missing from escrow
  have hM : amt "ujkl" (mergedCoins s gid cs) ≤ bal s'.bank gacc "ujkl" := by
    refine Int.le_trans ?_ (h3.bal_ge gacc (fun e => hm e) "ujkl")
    rw [hb2]
    rcases hrec with ⟨-, e⟩ | ⟨g0, hget, ha0, hb1, e⟩
    · rw [e]; exact Int.le_add_of_nonneg_left (hb1ok.bal_nonneg gacc "ujkl")
    · have hok0 := hinv.ok _ (AMap.mem_of_get hget)
      rw [← hsame g0 hget] at hok0
      rw [e, hb1, ← ha0]
      exact Int.add_le_add_right (hok0.at_start hinv.bank) _
  have hall : Moves (fun a => a = creator ∨ a = s.moduleAcc) s.bank s'.bank :=
    .of_sent (.step (Or.inl rfl) trivial h1 (.step (Or.inr rfl) trivial h2
      (h3.sent.mono (fun _ => Or.inr) fun _ hq => hq)))
  refine ⟨by rw [hg]; exact AMap.wf_set _ _ hinv.wf, ?_, ?_, ?_, hinv.bank.moves hall⟩
  all_goals
    intro kv hkv
    rw [hg] at hkv
    rcases (AMap.mem_set_iff hinv.wf).mp hkv with rfl | ⟨hm', hne⟩
  · exact ⟨rfl, hacc⟩
  · exact hinv.ids kv hm'
  · rw [hma, hca]; exact ⟨hm, hc⟩
  · rw [hma, hca]; exact hinv.accNe kv hm'
  · exact GaugeOk.of_start (g := ⟨gid, now, endT, mergedCoins s gid cs, gacc⟩) hend hMok hM
  · refine (hinv.ok kv hm').of_bal_ge (fun d => hall.bal_ge _ ?_ d)
    rintro (e | e)
    · exact hcr kv hm' e.symm
    · exact (hinv.accNe kv hm').1 e

/-- `Deposit` with the recipients of the later transfers made explicit: after the deposit only the
module account pays, and only `payees` receive -/
def DepositX (s s' : State) (now : Int) (creator gid gacc : String) (payees : List String) : Prop :=
  ∃ (x endT : Int) (pay : Coins) (b1 b2 : Bank),
    0 ≤ x ∧ now + 1999 ≤ endT ∧
    send s.bank creator s.moduleAcc pay = some b1 ∧
    send b1 s.moduleAcc gacc (coinsOf "ujkl" x) = some b2 ∧
    Sent (· = s.moduleAcc) (· ∈ payees) b2 s'.bank ∧
    s'.gauges = gaugesAfter s.gauges now gid gacc (coinsOf "ujkl" x) endT ∧
    s'.moduleAcc = s.moduleAcc ∧ s'.collateralAcc = s.collateralAcc

theorem DepositX.deposit {s s' : State} {now : Int} {creator gid gacc : String} {payees : List String}
    (h : DepositX s s' now creator gid gacc payees) : Deposit s s' now creator gid gacc := by
  obtain ⟨x, endT, pay, b1, b2, hx, hend, h1, h2, h3, hg, hm, hc⟩ := h
  exact ⟨x, endT, _, pay, b1, b2, newCoins_coinsOf hx, hend, h1, h2, Moves.of_sent h3, hg, hm, hc⟩

theorem postFile_deposit {s s' : State} {h now : Int} {c m : String} {fs mp ex pt : Int} {note : String}
    {nv : Bool} {jp : Dec} {gid gacc : String}
    (hs : postFile s h now c m fs mp ex pt note nv jp gid gacc = some s') :
    SameCore s s' ∨ DepositX s s' now c gid gacc [] := by
  obtain ⟨e1, e2, e3, e4⟩ := (sameMoney_removeFile s (m, c, h)).core
  rcases (postFile_spec hs).2.2.2.2 with ⟨-, cost, b1, hd, -, -, -, hspc, h1, h2, -, e⟩ | ⟨-, pi, -, -, -, e⟩
  · refine Or.inr ⟨_, _, _, b1, _, hspc, ?_, h1, h2, .refl _, congrArg State.gauges e,
      (congrArg State.moduleAcc e).trans e3, (congrArg State.collateralAcc e).trans e4⟩
    unfold dayNs; omega
  · exact Or.inl ⟨(congrArg State.bank e).trans e1, (congrArg State.gauges e).trans e2,
      (congrArg State.moduleAcc e).trans e3, (congrArg State.collateralAcc e).trans e4⟩

theorem refTarget_mem (s : State) (c : String) (ref : Option String) :
    refTarget s c ref ∈ [s.polAcc, s.feeAcc] ++ ref.toList := by
  unfold refTarget
  cases ref with
  | none => simp
  | some r => simp only; split <;> simp

theorem buyStorage_deposit {s s' : State} {now : Int} {c fa : String} {dd bytes : Int} {dn : String}
    {ref : Option String} {jp : Dec} {gid gacc : String}
    (hs : buyStorage s now c fa dd bytes dn ref jp gid gacc = some s') :
    DepositX s s' now c gid gacc ([s.polAcc, s.feeAcc] ++ ref.toList) := by
  obtain ⟨tp0, su, hbase, hp⟩ := buyStorage_spec hs
  obtain ⟨rfl, -, hdur, -⟩ := buyBase_spec hbase
  obtain ⟨b1, b2, b3, -, hspc, -, -, h1, h2, -, h3, -, h4, -, e⟩ := buyPay_spec hp
  have h34 : Sent (· = s.moduleAcc) (· ∈ [s.polAcc, s.feeAcc] ++ ref.toList) b2 s'.bank :=
    .step rfl (by simp) h3 (.one rfl (refTarget_mem s c ref) h4)
  refine ⟨_, _, _, b1, b2, hspc, ?_, h1, h2, h34, by rw [e], by rw [e], by rw [e]⟩
  unfold timeMonthNs at hdur; omega

end Canine.Storage
