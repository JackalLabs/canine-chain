/-
Lemmas about the pagination model (Canine/Query/Page.lean): on a store whose keys are strictly
ascending (what an ordered key-value store is), a client that follows `NextKey` from the first
page to the last sees every value exactly once, in key order (forward) or in reverse key order.
The walk theorems use only irreflexivity of `<` on keys.
-/
import Canine.Query.Page
import Canine.Basic.Map
namespace Canine.Query

variable {V : Type}

def Sorted (entries : List (String × V)) : Prop := entries.Pairwise (fun a b => a.1 < b.1)

theorem sortByKey_perm (l : List (String × V)) : (sortByKey l).Perm l :=
  List.mergeSort_perm l _

theorem mem_sortByKey (l : List (String × V)) (x : String × V) : x ∈ sortByKey l ↔ x ∈ l :=
  (sortByKey_perm l).mem_iff

theorem sortByKey_pairwise (l : List (String × V)) : (sortByKey l).Pairwise (fun a b => a.1 ≤ b.1) := by
  refine (List.pairwise_mergeSort (fun a b c => ?_) (fun a b => ?_) l).imp of_decide_eq_true
  · simp only [decide_eq_true_eq]; exact String.le_trans
  · simp only [Bool.or_eq_true, decide_eq_true_eq]; exact String.le_total _ _

/-- the store order is canonical: two listings of the same records (in any order) with distinct
raw keys sort to the same list -/
theorem sortByKey_eq_of_perm {e1 e2 : List (String × V)} (h : e1.Perm e2) (nd : (e1.map (·.1)).Nodup) :
    sortByKey e1 = sortByKey e2 := by
  refine List.Perm.eq_of_pairwise (le := fun a b => a.1 ≤ b.1) ?_ (sortByKey_pairwise e1) (sortByKey_pairwise e2)
    (((sortByKey_perm e1).trans h).trans (sortByKey_perm e2).symm)
  intro a b ha hb hab hba
  exact AMap.wf_unique nd ((sortByKey_perm e1).subset ha) (h.symm.subset ((sortByKey_perm e2).subset hb))
    (String.le_antisymm hab hba)

/-- the limit `paginate` works with -/
abbrev effLimit (limit : Nat) : Nat := if limit = 0 then defaultLimit else limit

theorem effLimit_pos (limit : Nat) : 0 < effLimit limit := by
  unfold effLimit
  split
  · decide
  · omega

abbrev pageOf (L : Nat) (l : List (String × V)) (total : Nat) : PageRes V :=
  { items := (l.take L).map (·.2), nextKey := (l.drop L).head?.map (·.1), total := total }

/-- the order in which a listing hands out the store -/
abbrev iterOrder (entries : List (String × V)) (reverse : Bool) : List (String × V) :=
  if reverse then entries.reverse else entries

theorem lt_key_of_sorted {pre post : List (String × V)} {e : String × V} (h : Sorted (pre ++ e :: post)) :
    ∀ a ∈ pre, decide (a.1 < e.1) = true :=
  fun a ha => decide_eq_true ((List.pairwise_append.mp h).2.2 a ha e List.mem_cons_self)

theorem not_lt_key_self (e : String × V) : ¬ decide (e.1 < e.1) = true :=
  fun h => String.lt_irrefl e.1 (of_decide_eq_true h)

theorem dropWhile_lt_key (pre post : List (String × V)) (e : String × V)
    (h : Sorted (pre ++ e :: post)) :
    (pre ++ e :: post).dropWhile (fun x => decide (x.1 < e.1)) = e :: post := by
  rw [List.dropWhile_append_of_pos (lt_key_of_sorted h), List.dropWhile_cons_of_neg (p := fun x : String × V => decide (x.1 < e.1)) (not_lt_key_self e)]

theorem takeWhile_lt_key (pre post : List (String × V)) (e : String × V)
    (h : Sorted (pre ++ e :: post)) :
    (pre ++ e :: post).takeWhile (fun x => decide (x.1 < e.1)) = pre := by
  rw [List.takeWhile_append_of_pos (lt_key_of_sorted h), List.takeWhile_cons_of_neg (p := fun x : String × V => decide (x.1 < e.1)) (not_lt_key_self e),
    List.append_nil]

theorem page_first (entries : List (String × V)) (limit : Nat) (reverse : Bool) :
    paginate entries { limit := limit, reverse := reverse } =
      .ok (pageOf (effLimit limit) (iterOrder entries reverse)
        (if limit = 0 then (iterOrder entries reverse).length else 0)) := by
  simp only [paginate, Nat.lt_irrefl, false_and, if_false, List.drop_zero, Nat.zero_add, Bool.false_or,
    decide_eq_true_eq]

theorem page_forward_at (pre post : List (String × V)) (e : String × V) (limit : Nat)
    (h : Sorted (pre ++ e :: post)) :
    paginate (pre ++ e :: post) { key := some e.1, limit := limit } =
      .ok (pageOf (effLimit limit) (e :: post) 0) := by
  simp only [paginate, iterFrom, dropWhile_lt_key pre post e h]
  rfl

/-- a reverse page positioned at the key of an entry that is not the last one: the `limit` values
from that entry downwards -/
theorem page_reverse_at (pre post : List (String × V)) (e nxt : String × V) (limit : Nat)
    (h : Sorted (pre ++ e :: nxt :: post)) :
    paginate (pre ++ e :: nxt :: post) { key := some e.1, limit := limit, reverse := true } =
      .ok (pageOf (effLimit limit) (e :: pre.reverse) 0) := by
  have h2 : (pre ++ e :: nxt :: post).takeWhile (fun x => decide (x.1 < nxt.1)) = pre ++ [e] := by
    rw [List.append_cons] at h ⊢
    exact takeWhile_lt_key (pre ++ [e]) post nxt h
  simp only [paginate, iterFrom, dropWhile_lt_key pre (nxt :: post) e h, h2, List.reverse_append,
    List.reverse_cons, List.reverse_nil, List.nil_append, List.cons_append]
  rfl

/-- the reverse iterator positioned at the last key reads `Key()` of an exhausted iterator -/
theorem page_reverse_at_last_panics (pre : List (String × V)) (e : String × V) (limit : Nat)
    (h : Sorted (pre ++ [e])) :
    ∃ msg, paginate (pre ++ [e]) { key := some e.1, limit := limit, reverse := true } = .error msg := by
  refine ⟨"panic: iterator invalid, cannot call Key()", ?_⟩
  simp only [paginate, iterFrom, dropWhile_lt_key pre [] e h]
  rfl

theorem walk_succ {entries : List (String × V)} {limit : Nat} {reverse : Bool} {key : Option String}
    {L total : Nat} {l : List (String × V)}
    (hp : paginate entries { key := key, limit := limit, reverse := reverse } = .ok (pageOf L l total))
    (fuel : Nat) (acc : List V) :
    walk entries limit reverse (fuel + 1) key acc =
      match l.drop L with
      | [] => some (acc ++ l.map (·.2))
      | e' :: _ => walk entries limit reverse fuel (some e'.1) (acc ++ (l.take L).map (·.2)) := by
  rw [walk, hp]
  cases hd : l.drop L with
  | nil => simp only [hd, List.head?_nil, Option.map_none, List.take_of_length_le (List.drop_eq_nil_iff.mp hd)]
  | cons e' _ => simp only [hd, List.head?_cons, Option.map_some]

theorem length_iterOrder (entries : List (String × V)) (reverse : Bool) :
    (iterOrder entries reverse).length = entries.length := by
  unfold iterOrder
  split
  · exact List.length_reverse
  · rfl

/-- Where every page positioned at the key of an entry other than the first of the listing hands
out the entries from that one on: a walk that stands before the rest `l` of the listing, and whose
next page hands out the first of `l`, lists all of `l`. -/
theorem walk_rest (entries : List (String × V)) (limit : Nat) (reverse : Bool)
    (hat : ∀ a e b, a ≠ [] → iterOrder entries reverse = a ++ e :: b →
      paginate entries { key := some e.1, limit := limit, reverse := reverse } = .ok (pageOf (effLimit limit) (e :: b) 0)) :
    ∀ (fuel : Nat) (key : Option String) (total : Nat) (a l : List (String × V)) (acc : List V),
      iterOrder entries reverse = a ++ l →
      paginate entries { key := key, limit := limit, reverse := reverse } = .ok (pageOf (effLimit limit) l total) →
      l.length + 1 ≤ fuel → walk entries limit reverse fuel key acc = some (acc ++ l.map (·.2))
  | 0, _, _, _, _, _, _, _, hl => nomatch hl
  | fuel + 1, key, total, a, l, acc, hit, hp, hl => by
    rw [walk_succ hp]
    have hsplit := List.take_append_drop (effLimit limit) l
    cases hd : l.drop (effLimit limit) with
    | nil => rfl
    | cons e' b' =>
      rw [hd] at hsplit
      have hlen := congrArg List.length hd
      rw [List.length_drop, List.length_cons] at hlen
      have hpos := effLimit_pos limit
      -- the page was not empty, so the key that follows is not that of the first entry of the listing
      have hne : a ++ l.take (effLimit limit) ≠ [] := fun h => by
        have := congrArg List.length h
        rw [List.length_append, List.length_take, List.length_nil] at this
        omega
      have hit' : iterOrder entries reverse = (a ++ l.take (effLimit limit)) ++ e' :: b' := by
        rw [List.append_assoc, hsplit, hit]
      show walk entries limit reverse fuel (some e'.1) _ = _
      rw [walk_rest entries limit reverse hat fuel (some e'.1) 0 _ (e' :: b') _ hit' (hat _ e' b' hne hit')
        (by rw [List.length_cons]; omega), List.append_assoc, ← List.map_append, hsplit]

theorem walk_complete (entries : List (String × V)) (limit : Nat) (reverse : Bool) (fuel : Nat)
    (hat : ∀ a e b, a ≠ [] → iterOrder entries reverse = a ++ e :: b →
      paginate entries { key := some e.1, limit := limit, reverse := reverse } = .ok (pageOf (effLimit limit) (e :: b) 0))
    (hf : entries.length + 1 ≤ fuel) :
    walk entries limit reverse fuel none [] = some ((iterOrder entries reverse).map (·.2)) :=
  walk_rest entries limit reverse hat fuel none _ [] _ [] rfl (page_first entries limit reverse)
    (by rw [length_iterOrder]; exact hf)

/-- A forward walk through `NextKey` lists every value of the store exactly once, in key order. -/
theorem walk_forward_complete (entries : List (String × V)) (limit fuel : Nat)
    (hs : Sorted entries) (hf : entries.length + 1 ≤ fuel) :
    walk entries limit false fuel none [] = some (entries.map (·.2)) :=
  walk_complete entries limit false fuel
    (fun a e b _ (hit : entries = a ++ e :: b) => by subst hit; exact page_forward_at a b e limit hs) hf

/-- A reverse walk through `NextKey` lists every value of the store exactly once, in reverse key
order.  (It never positions the iterator at the last key, the one request that panics.) -/
theorem walk_reverse_complete (entries : List (String × V)) (limit fuel : Nat)
    (hs : Sorted entries) (hf : entries.length + 1 ≤ fuel) :
    walk entries limit true fuel none [] = some (entries.reverse.map (·.2)) :=
  walk_complete entries limit true fuel
    (fun a e b ha (hit : entries.reverse = a ++ e :: b) => by
      -- `a` is not empty: in key order the entry has a successor
      obtain ⟨nxt, post, hpost⟩ := List.exists_cons_of_ne_nil (mt List.reverse_eq_nil_iff.mp ha)
      obtain rfl : entries = b.reverse ++ e :: nxt :: post := by
        rw [List.reverse_eq_iff.mp hit, List.reverse_append, List.reverse_cons, List.append_assoc, hpost]; rfl
      simpa using page_reverse_at b.reverse post e nxt limit hs) hf

end Canine.Query
