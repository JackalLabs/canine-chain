/-
The name-service handlers read once:
`Delivered` says, handler by handler, which guards a successful message passed and which state it
wrote; everything else about `step` is derived from `step_delivered` by a case split.
-/
import Canine.Rns.Model
import Canine.Proofs.Bank
import Canine.Proofs.Basic
namespace Canine.Rns
open Bank

theorem sendFromModule_spec {s : State} {dst : String} {c : Coins} {b' : Bank}
    (h : sendFromModule s dst c = some b') :
    s.blocked.contains dst = false ∧ Bank.send s.bank s.moduleAcc dst c = some b' := by
  unfold sendFromModule at h
  split at h
  · simp at h
  · rename_i hb; exact ⟨by simpa using hb, h⟩

theorem sendFromModule_bal {s : State} {dst : String} {c : Coins} {b' : Bank}
    (h : sendFromModule s dst c = some b') (a d : String) :
    bal b' a d = bal s.bank a d + (if dst = a then amt d c else 0)
      - (if s.moduleAcc = a then amt d c else 0) :=
  bal_send (sendFromModule_spec h).2 a d

theorem sendFromModule_ne {s : State} {dst : String} {c : Coins} {b' : Bank}
    (h : sendFromModule s dst c = some b') (hm : s.moduleAcc ∈ s.blocked) : dst ≠ s.moduleAcc := by
  intro e
  have := (sendFromModule_spec h).1
  rw [e] at this
  simp at this
  exact this hm

theorem sendFromModule_pays {s : State} {dst : String} {c : Coins} {b' : Bank}
    (h : sendFromModule s dst c = some b') (hm : s.moduleAcc ∈ s.blocked) (d : String) :
    bal b' dst d = bal s.bank dst d + amt d c ∧
    bal b' s.moduleAcc d = bal s.bank s.moduleAcc d - amt d c := by
  have hne := sendFromModule_ne h hm
  have hne' : ¬ s.moduleAcc = dst := fun e => hne e.symm
  rw [sendFromModule_bal h, sendFromModule_bal h]
  simp only [hne, hne', if_true, if_false]
  omega

/-- Coins paid into the module account and straight out of it again (`Register`: to the
protocol-liquidity account, `Buy`: to the seller): whatever the three accounts are, the balances
move as if `src` had paid `dst`. -/
theorem passThrough_bal {s : State} {src dst : String} {c : Coins} {b1 b2 : Bank}
    (h1 : Bank.send s.bank src s.moduleAcc c = some b1)
    (h2 : sendFromModule { s with bank := b1 } dst c = some b2) (a d : String) :
    bal b2 a d = bal s.bank a d + (if dst = a then amt d c else 0) - (if src = a then amt d c else 0) := by
  have e2 := sendFromModule_bal h2 a d
  have e1 := bal_send h1 a d
  simp only at e2
  rw [e2, e1]
  split <;> omega

theorem passThrough_pays {s : State} {src dst : String} {c : Coins} {b1 b2 : Bank}
    (h1 : Bank.send s.bank src s.moduleAcc c = some b1)
    (h2 : sendFromModule { s with bank := b1 } dst c = some b2) (hne : dst ≠ src) :
    (∀ d, bal b2 dst d = bal s.bank dst d + amt d c) ∧ (∀ d, bal b2 src d = bal s.bank src d - amt d c) :=
  ⟨fun d => by rw [passThrough_bal h1 h2]; simp [Ne.symm hne],
   fun d => by rw [passThrough_bal h1 h2]; simp [hne]⟩

/-- `regExpiry` case by case: a live name is extended, for its owner only; otherwise the term runs
from the current height -/
theorem regExpiry_eq_some {s : State} {key cc : String} {h term ex : Int} :
    regExpiry s key cc h term = some ex ↔
      match AMap.get s.names key with
      | some w => if h ≤ w.expires then w.value = cc ∧ ex = w.expires + term else ex = h + term
      | none => ex = h + term := by
  unfold regExpiry
  cases AMap.get s.names key with
  | none => simp only [Option.some.injEq]; omega
  | some w =>
    by_cases hl : h ≤ w.expires <;> by_cases ho : w.value = cc <;>
      simp only [hl, ho, if_true, if_false, Option.some.injEq, true_and, false_and, reduceCtorEq] <;> omega

theorem regExpiry_live {s : State} {key cc : String} {h term ex : Int} {w : NameRec}
    (hw : AMap.get s.names key = some w) (hlive : h ≤ w.expires) :
    regExpiry s key cc h term = some ex ↔ w.value = cc ∧ ex = w.expires + term := by
  rw [regExpiry_eq_some, hw]; simp only [hlive, if_true]

theorem regExpiry_ge {s : State} {key cc : String} {h term ex : Int}
    (he : regExpiry s key cc h term = some ex) : h + term ≤ ex := by
  rw [regExpiry_eq_some] at he
  split at he
  · split at he <;> omega
  · omega

theorem refundOld_spec {s : State} {i : String} {b0 : Bank} (h : refundOld s i = some b0) :
    (AMap.get s.bids i = none ∧ b0 = s.bank) ∨
    ∃ old ob oc, AMap.get s.bids i = some old ∧ acct s old.bidder = some ob ∧ old.price = some oc ∧
      sendFromModule s ob oc = some b0 := by
  unfold refundOld at h
  split at h
  · rename_i old hg
    simp only [Option.bind_eq_some_iff] at h
    obtain ⟨ob, hob, oc, hoc, hsend⟩ := h
    exact .inr ⟨old, ob, oc, hg, hob, hoc, hsend⟩
  · rename_i hg
    exact .inl ⟨hg, (Option.some.inj h).symm⟩

/-- amount of denomination `d` a bid holds in escrow -/
def bidAmt (d : String) (b : BidRec) : Int := amt d (b.price.getD [])

theorem bidAmt_of_price {d : String} {b : BidRec} {c : Coins} (h : b.price = some c) :
    bidAmt d b = amt d c := by
  rw [bidAmt, h]; rfl

def escrowed (d : String) (s : State) : Int := AMap.sumBy (bidAmt d) s.bids

theorem step_some {s s' : State} {h : Int} {op : Op} (hstep : step s h op = some s') :
    ∃ cc, validateBasic op = true ∧ acct s op.creator = some cc ∧ handle s h cc op = some s' := by
  unfold step at hstep
  split at hstep
  · rename_i hv
    simp only [Option.bind_eq_some_iff] at hstep
    obtain ⟨cc, hcc, hh⟩ := hstep
    simp only [Bool.and_eq_true] at hv
    exact ⟨cc, hv.1, hcc, hh⟩
  · simp at hstep

theorem setPrimaryIf_eq (s : State) (c k : String) (f : Bool) :
    setPrimaryIf s c k f = { s with primary := (setPrimaryIf s c k f).primary } := by
  unfold setPrimaryIf; split <;> rfl

theorem setPrimaryIf_primary (s : State) (c k : String) (f : Bool) :
    (setPrimaryIf s c k f).primary = s.primary ∨ (setPrimaryIf s c k f).primary = AMap.set s.primary c k := by
  unfold setPrimaryIf; split
  · exact Or.inr rfl
  · exact Or.inl rfl

/-- `handle s h cc op = some s'`, handler by handler: the values read, the guards passed (in the
handler's order) and the state written, as an update of `s`.  For `register`, `pr` is the
primary-name store as `setPrimaryIf` leaves it. -/
inductive Delivered (s : State) (h : Int) (cc : String) : Op → State → Prop
  | register {c raw n dta : String} {y : Int} {p : Bool} {nm tld : String} {cost ex : Int} {b1 b2 : Bank}
      {pr : AMap String String} :
      nameAndTLD n = some (nm, tld) → costOfName nm tld = some cost → 1 ≤ y ∧ y ≤ maxYears →
      regExpiry s (nameKey nm tld) cc h (y * yearBlocks) = some ex →
      Bank.send s.bank cc s.moduleAcc [("ujkl", cost * y)] = some b1 →
      sendFromModule { s with bank := b1 } s.polAcc [("ujkl", cost * y)] = some b2 →
      pr = s.primary ∨ pr = AMap.set s.primary cc (nameKey nm tld) →
      Delivered s h cc (.register c raw n dta y p)
        { s with bank := b2, primary := pr,
                 names := AMap.set s.names (nameKey nm tld)
                   { name := nm, tld := tld, expires := ex, value := cc, data := dta, locked := 0, subs := [] } }
  | list {c raw n pr : String} {p : Option Coin} {nm tld : String} {w : NameRec} :
      AMap.get s.forsale n = none → nameAndTLD n = some (nm, tld) →
      AMap.get s.names (nameKey nm tld) = some w → w.value = c → w.locked ≤ h → h ≤ w.expires →
      Delivered s h cc (.list c raw n pr p)
        { s with forsale := AMap.set s.forsale n { name := n, owner := c, priceRaw := pr, price := p } }
  | delist {c raw n : String} {sale : Listing} {nm tld : String} {w : NameRec} :
      AMap.get s.forsale n = some sale → nameAndTLD n = some (nm, tld) →
      AMap.get s.names (nameKey nm tld) = some w → sale.owner = c → w.value = sale.owner →
      Delivered s h cc (.delist c raw n) { s with forsale := AMap.erase s.forsale n }
  | buy {c raw n : String} {sale : Listing} {nm tld : String} {w : NameRec} {seller d : String} {a : Int}
      {coins : Coins} {b1 b2 : Bank} :
      AMap.get s.forsale n = some sale → nameAndTLD n = some (nm, tld) →
      AMap.get s.names (nameKey nm tld) = some w → h ≤ w.expires → w.value ≠ c → w.value = sale.owner →
      acct s sale.owner = some seller → sale.price = some (d, a) → newCoins d a = some coins →
      Bank.send s.bank cc s.moduleAcc coins = some b1 →
      sendFromModule { s with bank := b1 } seller coins = some b2 →
      Delivered s h cc (.buy c raw n)
        { s with bank := b2, forsale := AMap.erase s.forsale sale.name,
                 names := AMap.set s.names (nameKey nm tld) { w with value := c, data := "{}" } }
  | bid {c raw n pr : String} {p : Option Coins} {coins : Coins} {b0 b1 : Bank} :
      p = some coins → refundOld s (cc ++ n) = some b0 → Bank.send b0 cc s.moduleAcc coins = some b1 →
      Delivered s h cc (.bid c raw n pr p)
        { s with bank := b1,
                 bids := AMap.set s.bids (cc ++ n)
                   { index := cc ++ n, name := n, bidder := cc, priceRaw := pr, price := p } }
  | cancelBid {c raw n : String} {b : BidRec} {coins : Coins} {b1 : Bank} :
      AMap.get s.bids (c ++ n) = some b → b.price = some coins → sendFromModule s cc coins = some b1 →
      Delivered s h cc (.cancelBid c raw n) { s with bank := b1, bids := AMap.erase s.bids (c ++ n) }
  | acceptBid {c raw n bidder nm tld : String} {w : NameRec} {b : BidRec} {coins : Coins} {b1 : Bank} :
      nameAndTLD n = some (nm, tld) → AMap.get s.names (nameKey nm tld) = some w →
      h ≤ w.expires → w.value = cc → w.locked ≤ h →
      AMap.get s.bids (bidder ++ n) = some b → b.price = some coins → sendFromModule s cc coins = some b1 →
      Delivered s h cc (.acceptBid c raw n bidder)
        { s with bank := b1, bids := AMap.erase s.bids (bidder ++ n),
                 names := AMap.set s.names (nameKey nm tld) { w with value := b.bidder, data := "{}" } }
  | transfer {c raw n r nm tld : String} {w : NameRec} :
      nameAndTLD n = some (nm, tld) → AMap.get s.names (nameKey nm tld) = some w →
      h ≤ w.expires → w.value = cc → w.locked ≤ h →
      Delivered s h cc (.transfer c raw n r)
        { s with names := AMap.set s.names (nameKey nm tld) { w with value := r, data := "{}" } }
  | update {c raw n dta nm tld : String} {w : NameRec} :
      nameAndTLD n = some (nm, tld) → AMap.get s.names (nameKey nm tld) = some w →
      w.value = cc → h ≤ w.expires →
      Delivered s h cc (.update c raw n dta)
        { s with names := AMap.set s.names (nameKey nm tld) { w with data := dta } }
  | addRecord {c raw n r rl v dta nm tld : String} {w : NameRec} :
      nameAndTLD n = some (nm, tld) → AMap.get s.names (nameKey nm tld) = some w →
      h ≤ w.expires → c = w.value → ¬ v.contains '.' → ¬ w.subs.any (fun sd => sd.name = r) →
      Delivered s h cc (.addRecord c raw n r rl v dta)
        { s with names := AMap.set s.names (nameKey nm tld)
                   { w with subs := w.subs ++
                       [{ name := rl, value := v, data := dta, tld := w.tld, expires := w.expires }] } }
  | delRecord {c raw n n0 tld sub nm : String} {w : NameRec} :
      nameAndTLD n = some (n0, tld) → subdomainOf n0 = some (sub, nm) →
      AMap.get s.names (nameKey nm tld) = some w →
      h ≤ w.expires → c = w.value → w.subs.any (fun sd => sd.name = sub) →
      Delivered s h cc (.delRecord c raw n)
        { s with names := AMap.set s.names (nameKey nm tld)
                   { w with subs := w.subs.filter (fun sd => sd.name ≠ sub) } }
  | init {c g : String} :
      AMap.get s.inits c = none → ¬ g.contains '.' → 6 ≤ g.length → isLive s (nameKey g "jkl") h = false →
      Delivered s h cc (.init c g)
        { s with inits := AMap.set s.inits c true,
                 names := AMap.set s.names (nameKey g "jkl")
                   { name := g, tld := "jkl", expires := initBlocks + h, value := c, data := "{}",
                     locked := initBlocks + h, subs := [] } }
  | makePrimary {c raw n nm tld : String} :
      nameAndTLD n = some (nm, tld) →
      Delivered s h cc (.makePrimary c raw n) { s with primary := AMap.set s.primary c (nameKey nm tld) }

/-- The one place where the handlers are unfolded. -/
theorem handle_delivered {s s' : State} {h : Int} {cc : String} {op : Op}
    (hh : handle s h cc op = some s') : Delivered s h cc op s' := by
  cases op with
  | register c raw n dta y p =>
    simp only [handle, register, bind, Option.bind_eq_some_iff, req_eq_some, Option.some.injEq] at hh
    obtain ⟨⟨nm, tld⟩, hnt, cost, hcost, _, hy, ex, hex, b1, hb1, b2, hb2, rfl⟩ := hh
    rw [setPrimaryIf_eq]
    exact .register hnt hcost hy hex hb1 hb2 (setPrimaryIf_primary _ _ _ _)
  | list c raw n pr p =>
    simp only [handle, list, bind, Option.bind_eq_some_iff, req_eq_some, Option.some.injEq,
      Bool.not_eq_true, AMap.contains_eq_false] at hh
    obtain ⟨_, hfree, ⟨nm, tld⟩, hnt, w, hw, _, hown, _, hlock, _, hlive, rfl⟩ := hh
    exact .list hfree hnt hw hown hlock hlive
  | delist c raw n =>
    simp only [handle, delist, bind, Option.bind_eq_some_iff, req_eq_some, Option.some.injEq] at hh
    obtain ⟨sale, hsale, ⟨nm, tld⟩, hnt, w, hw, _, hso, _, hown, rfl⟩ := hh
    exact .delist hsale hnt hw hso hown
  | buy c raw n =>
    simp only [handle, buy, bind, Option.bind_eq_some_iff, req_eq_some, Option.some.injEq] at hh
    obtain ⟨sale, hsale, ⟨nm, tld⟩, hnt, w, hw, _, hlive, _, hne, _, hown, seller, hseller, ⟨d, a⟩, hpr,
      coins, hcoins, b1, hb1, b2, hb2, rfl⟩ := hh
    exact .buy hsale hnt hw hlive hne hown hseller hpr hcoins hb1 hb2
  | bid c raw n pr p =>
    simp only [handle, bid, bind, Option.bind_eq_some_iff, Option.some.injEq] at hh
    obtain ⟨coins, hp, b0, hb0, b1, hb1, rfl⟩ := hh
    exact .bid hp hb0 hb1
  | cancelBid c raw n =>
    simp only [handle, cancelBid, bind, Option.bind_eq_some_iff, Option.some.injEq] at hh
    obtain ⟨b, hb, coins, hcoins, b1, hb1, rfl⟩ := hh
    exact .cancelBid hb hcoins hb1
  | acceptBid c raw n bidder =>
    simp only [handle, acceptBid, bind, Option.bind_eq_some_iff, req_eq_some, Option.some.injEq] at hh
    obtain ⟨⟨nm, tld⟩, hnt, w, hw, _, hlive, _, hown, _, hlock, b, hb, coins, hcoins, b1, hb1, rfl⟩ := hh
    exact .acceptBid hnt hw hlive hown hlock hb hcoins hb1
  | transfer c raw n r =>
    simp only [handle, transfer, bind, Option.bind_eq_some_iff, req_eq_some, Option.some.injEq] at hh
    obtain ⟨⟨nm, tld⟩, hnt, w, hw, _, hlive, _, hown, _, hlock, rfl⟩ := hh
    exact .transfer hnt hw hlive hown hlock
  | update c raw n dta =>
    simp only [handle, update, bind, Option.bind_eq_some_iff, req_eq_some, Option.some.injEq] at hh
    obtain ⟨⟨nm, tld⟩, hnt, w, hw, _, hown, _, hlive, rfl⟩ := hh
    exact .update hnt hw hown hlive
  | addRecord c raw n r rl v dta =>
    simp only [handle, addRecord, bind, Option.bind_eq_some_iff, req_eq_some, Option.some.injEq] at hh
    obtain ⟨⟨nm, tld⟩, hnt, w, hw, _, hlive, _, hown, _, hdot, _, hnew, rfl⟩ := hh
    exact .addRecord hnt hw hlive hown hdot hnew
  | delRecord c raw n =>
    simp only [handle, delRecord, bind, Option.bind_eq_some_iff, req_eq_some, Option.some.injEq] at hh
    obtain ⟨⟨n0, tld⟩, hnt, ⟨sub, nm⟩, hsub, w, hw, _, hlive, _, hown, _, hhas, rfl⟩ := hh
    exact .delRecord hnt hsub hw hlive hown hhas
  | init c g =>
    simp only [handle, init, bind, Option.bind_eq_some_iff, req_eq_some, Option.some.injEq,
      Bool.not_eq_true, AMap.contains_eq_false] at hh
    obtain ⟨_, hfree, _, hdot, _, hlen, _, hnl, rfl⟩ := hh
    exact .init hfree (Bool.eq_false_iff.mp hdot) hlen hnl
  | makePrimary c raw n =>
    simp only [handle, makePrimary, bind, Option.bind_eq_some_iff, Option.some.injEq] at hh
    obtain ⟨⟨nm, tld⟩, hnt, rfl⟩ := hh
    exact .makePrimary hnt

theorem step_delivered {s s' : State} {h : Int} {op : Op} (hstep : step s h op = some s') :
    ∃ cc, acct s op.creator = some cc ∧ Delivered s h cc op s' :=
  let ⟨cc, _, hcc, hh⟩ := step_some hstep
  ⟨cc, hcc, handle_delivered hh⟩

theorem step_cfg {s s' : State} {h : Int} {op : Op} (hstep : step s h op = some s') :
    s'.moduleAcc = s.moduleAcc ∧ s'.polAcc = s.polAcc ∧ s'.blocked = s.blocked ∧ s'.canon = s.canon := by
  obtain ⟨cc, -, hd⟩ := step_delivered hstep
  cases hd <;> exact ⟨rfl, rfl, rfl, rfl⟩

/-- What a successful message does to the five stores: each is as it was, or one binding of it was
set or erased.  A name record is written under the key built from its own fields, or replaces the
record stored under that key keeping `name` and `tld`; a bid is written under its index, a listing
under its name. -/
theorem step_stores {s s' : State} {h : Int} {op : Op} (hstep : step s h op = some s') :
    (s'.names = s.names ∨ ∃ k v, s'.names = AMap.set s.names k v ∧
      (nameKey v.name v.tld = k ∨ ∃ w, AMap.get s.names k = some w ∧ v.name = w.name ∧ v.tld = w.tld)) ∧
    (s'.bids = s.bids ∨ (∃ k v, s'.bids = AMap.set s.bids k v ∧ v.index = k) ∨
      ∃ k, s'.bids = AMap.erase s.bids k) ∧
    (s'.forsale = s.forsale ∨ (∃ k v, s'.forsale = AMap.set s.forsale k v ∧ v.name = k) ∨
      ∃ k, s'.forsale = AMap.erase s.forsale k) ∧
    (s'.inits = s.inits ∨ ∃ k v, s'.inits = AMap.set s.inits k v) ∧
    (s'.primary = s.primary ∨ ∃ k v, s'.primary = AMap.set s.primary k v) := by
  obtain ⟨cc, -, hd⟩ := step_delivered hstep
  cases hd with
  | register _ _ _ _ _ _ hpr =>
    exact ⟨.inr ⟨_, _, rfl, .inl rfl⟩, .inl rfl, .inl rfl, .inl rfl, hpr.imp id fun e => ⟨_, _, e⟩⟩
  | list => exact ⟨.inl rfl, .inl rfl, .inr (.inl ⟨_, _, rfl, rfl⟩), .inl rfl, .inl rfl⟩
  | delist => exact ⟨.inl rfl, .inl rfl, .inr (.inr ⟨_, rfl⟩), .inl rfl, .inl rfl⟩
  | buy _ _ hw =>
    exact ⟨.inr ⟨_, _, rfl, .inr ⟨_, hw, rfl, rfl⟩⟩, .inl rfl, .inr (.inr ⟨_, rfl⟩), .inl rfl, .inl rfl⟩
  | bid => exact ⟨.inl rfl, .inr (.inl ⟨_, _, rfl, rfl⟩), .inl rfl, .inl rfl, .inl rfl⟩
  | cancelBid => exact ⟨.inl rfl, .inr (.inr ⟨_, rfl⟩), .inl rfl, .inl rfl, .inl rfl⟩
  | acceptBid _ hw =>
    exact ⟨.inr ⟨_, _, rfl, .inr ⟨_, hw, rfl, rfl⟩⟩, .inr (.inr ⟨_, rfl⟩), .inl rfl, .inl rfl, .inl rfl⟩
  | transfer _ hw | update _ hw | addRecord _ hw | delRecord _ _ hw =>
    exact ⟨.inr ⟨_, _, rfl, .inr ⟨_, hw, rfl, rfl⟩⟩, .inl rfl, .inl rfl, .inl rfl, .inl rfl⟩
  | init => exact ⟨.inr ⟨_, _, rfl, .inl rfl⟩, .inl rfl, .inl rfl, .inr ⟨_, _, rfl⟩, .inl rfl⟩
  | makePrimary => exact ⟨.inl rfl, .inl rfl, .inl rfl, .inl rfl, .inr ⟨_, _, rfl⟩⟩

theorem stepT_none {s : State} {h : Int} {op : Op} (hs : step s h op = none) : stepT s h op = s := by
  rw [stepT, hs]; rfl

theorem stepT_some {s s' : State} {h : Int} {op : Op} (hs : step s h op = some s') : stepT s h op = s' := by
  rw [stepT, hs]; rfl

theorem run_inv {P : State → Prop} (evs : List (Int × Op))
    (hP : ∀ e ∈ evs, ∀ s s', P s → step s e.1 e.2 = some s' → P s') {s : State} (h0 : P s) :
    P (run s evs) :=
  run_inv_mem (step := fun s e => step s e.1 e.2) (fun _ => rfl) (fun _ _ _ => rfl) evs hP s h0

end Canine.Rns
