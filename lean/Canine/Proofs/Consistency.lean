/-
The x/storage stores that C01 and C02 speak of (file index, proof records, forms), on top of
`Proofs/Handlers.lean` and `Proofs/Block.lean`: what a delivered message does to the index and the
records, in seven cases (`StoreStep`); how the stores refer to each other (`Consistent`), an invariant
of every execution (`Event`, `consistent_run`); the reward block, which only shrinks prover lists and
keeps whoever passes the window test (`MFInv`, `KeepInv` per file; `BlockInv`, `KeepBlock` per block).
-/
import Canine.Proofs.Block
namespace Canine

namespace Storage

structure SameStore (s s' : State) : Prop where
  files : s'.files = s.files
  files2 : s'.files2 = s.files2
  proofs : s'.proofs = s.proofs
  attests : s'.attests = s.attests
  reports : s'.reports = s.reports

theorem step_sameStore {s s' : State} {h now : Int} {op : Op} (hop : op.isStoreOp = false)
    (hs : step s h now op = some s') : SameStore s s' := by
  rw [step_otherOp hop hs]; exact ⟨rfl, rfl, rfl, rfl, rfl⟩

/-- Facts about how the stores refer to each other.  They hold in the empty state and are preserved
by every message (`consistent_step`) and by the reward block (`consistent_manageRewards`). -/
structure Consistent (s : State) : Prop where
  wf : AMap.WF s.files
  key : ∀ k f, AMap.get s.files k = some f → f.key = k
  listed : ∀ k f, AMap.get s.files k = some f → ∀ pk ∈ f.proofs, pk.2 = k
  record : ∀ pk p, AMap.get s.proofs pk = some p → p.prover = pk.1
  form : ∀ pk fm, AMap.get s.attests pk = some fm → (fm.prover, fm.merkle, fm.owner, fm.start) = pk

theorem Consistent.congr {s s' : State} (h : Consistent s) (e1 : s'.files = s.files)
    (e2 : s'.proofs = s.proofs) (e3 : s'.attests = s.attests) : Consistent s' :=
  ⟨e1 ▸ h.wf, e1 ▸ h.key, e1 ▸ h.listed, e2 ▸ h.record, e3 ▸ h.form⟩

theorem Consistent.removeFile {s : State} (h : Consistent s) (k : FKey) : Consistent (removeFile s k) :=
  have sub : ∀ k' f, AMap.get (Storage.removeFile s k).files k' = some f →
      AMap.get s.files k' = some f := by
    intro k' f hf
    rw [removeFile_files_get] at hf
    split at hf
    · cases hf
    · exact hf
  ⟨removeFile_wf s k h.wf, fun k' f hf => h.key k' f (sub k' f hf),
    fun k' f hf => h.listed k' f (sub k' f hf),
    fun pk p hp => h.record pk p (proofs_get_of_removeFile s k pk p hp), by rw [removeFile_writes]; exact h.form⟩

theorem Consistent.setFile {s : State} (h : Consistent s) (f : File) (hl : ∀ pk ∈ f.proofs, pk.2 = f.key) :
    Consistent (setFile s f) :=
  ⟨AMap.wf_set _ _ h.wf, AMap.forall_set h.key rfl, AMap.forall_set h.listed hl, h.record, h.form⟩

theorem Consistent.dropProver {s : State} (h : Consistent s) {f : File} (hf : AMap.get s.files f.key = some f)
    (pk : PKey) : Consistent (dropProver s f pk).1 :=
  ⟨AMap.wf_set _ _ h.wf, AMap.forall_set h.key rfl,
   AMap.forall_set h.listed (fun x hx => h.listed _ _ hf x (List.mem_filter.mp hx).1),
   AMap.forall_erase h.record pk, h.form⟩

theorem consistent_step {s s' : State} {h now : Int} {op : Op} (hc : Consistent s)
    (hs : step s h now op = some s') : Consistent s' := by
  by_cases hop : op.isStoreOp = false
  · have e := step_sameStore hop hs
    exact hc.congr e.files e.proofs e.attests
  cases op with
  | postFile c m fs mp ex pt note nv jp gid gacc =>
    obtain ⟨_, _, _, rfl⟩ := postFile_writes hs
    exact ((hc.removeFile _).setFile _ (fun _ hpk => absurd hpk List.not_mem_nil)).congr rfl rfl rfl
  | deleteFile c m st =>
    cases hs
    exact hc.removeFile _
  | postProof c m o st tp v nc =>
    cases hs
    rcases postProof_outcome s h c m o st tp v nc with e | ⟨f, p, -, -, hp, -, -, e⟩ | ⟨f, hf, -, -, -, -, e⟩
    · rw [e]; exact hc
    · rw [e]
      exact ⟨hc.wf, hc.key, hc.listed, AMap.forall_set hc.record (hc.record _ p hp), hc.form⟩
    · rw [e]
      have hk := hc.key _ _ hf
      have h1 := hc.setFile { f with proofs := f.proofs ++ [(c, f.key)] } (fun x hx => by
        rcases List.mem_append.mp hx with hx | hx
        · exact (hc.listed _ _ hf x hx).trans hk.symm
        · rw [List.mem_singleton.mp hx]; rfl)
      exact ⟨h1.wf, h1.key, h1.listed, AMap.forall_set hc.record rfl, hc.form⟩
  | requestAttest c m o st ec ch =>
    cases hs
    cases hr : requestForm s.attests s c m o st ec ch with
    | none => exact hc
    | some forms =>
      obtain ⟨f, hf, -, -, -, -, -, rfl⟩ := requestForm_spec hr
      exact ⟨hc.wf, hc.key, hc.listed, hc.record,
        AMap.forall_set hc.form (by rw [hc.key _ _ hf])⟩
  | attest c p m o st =>
    cases hs
    rcases attest_cases s h c p m o st with ⟨e, -⟩ | ⟨fm, hg, -, -, e⟩ | ⟨fm, f, p0, -, -, -, -, -, hp, e⟩
    · rw [e]; exact hc
    · rw [e]
      exact ⟨hc.wf, hc.key, hc.listed, hc.record, AMap.forall_set hc.form (hc.form _ fm hg)⟩
    · rw [e]
      exact ⟨hc.wf, hc.key, hc.listed, AMap.forall_set hc.record (hc.record _ p0 hp),
        AMap.forall_erase hc.form _⟩
  | requestReport c p m o st ec ch =>
    cases hs
    split <;> exact hc.congr rfl rfl rfl
  | report c p m o st =>
    obtain ⟨fm, -, -, ⟨-, rfl⟩ | ⟨-, f, hf, rfl⟩⟩ := report_cases hs
    · exact hc.congr rfl rfl rfl
    · have hc' : Consistent { s with reports := AMap.erase s.reports (p, (m, o, st)) } := hc.congr rfl rfl rfl
      exact removeProver_cases Consistent (hc'.dropProver (by rw [hc.key _ _ hf]; exact hf) _) hc'
  | _ => exact absurd rfl hop

theorem removeFile_proofs_other {s : State} (hc : Consistent s) (k0 : FKey) (pk : PKey)
    (hne : pk.2 ≠ k0) : AMap.get (removeFile s k0).proofs pk = AMap.get s.proofs pk := by
  cases hf : AMap.get s.files k0 with
  | none => rw [removeFile_none hf]
  | some f0 =>
    rw [removeFile_some hf]
    exact (AMap.get_foldl_erase _ _ _).trans (if_neg (fun hmem => hne (hc.listed k0 f0 hf pk hmem)))

theorem File.key_eq {f : File} {m o : String} {st : Int} (h : f.key = (m, o, st)) :
    f.merkle = m ∧ f.owner = o ∧ f.start = st := by
  simpa only [File.key, Prod.mk.injEq] using h

/-- What a delivered message does to the file index and the proof records of a state whose files
are stored under their own keys, one constructor per way of writing to them.  The first covers
every message that writes to neither, a rejected proof included. -/
inductive StoreStep (s : State) (h : Int) : Op → State → Prop
  | same {op : Op} {s' : State} : s'.files = s.files → s'.proofs = s.proofs →
      (∀ c m o st tp v nc, op = .postProof c m o st tp v nc →
        (postProof s h c m o st tp v nc).success = false) → StoreStep s h op s'
  | deleted (c m : String) (st : Int) : StoreStep s h (.deleteFile c m st) (removeFile s (m, c, st))
  | posted {s' : State} (c m : String) (fs mp ex pt : Int) (note : String) (nv : Bool) (jp : Int)
      (gid gacc : String) (nf : File) : nf.proofs = [] →
      s'.files = AMap.set (removeFile s (m, c, h)).files (m, c, h) nf →
      s'.proofs = (removeFile s (m, c, h)).proofs →
      StoreStep s h (.postFile c m fs mp ex pt note nv jp gid gacc) s'
  | proved {s' : State} (c m o : String) (st tp nc : Int) (f : File) (p p' : Proof) :
      AMap.get s.files (m, o, st) = some f → (c, (m, o, st)) ∈ f.proofs →
      AMap.get s.proofs (c, (m, o, st)) = some p →
      (postProof s h c m o st tp true nc).success = true →
      p'.prover = p.prover → p'.lastProven = h →
      s'.files = s.files → s'.proofs = AMap.set s.proofs (c, (m, o, st)) p' →
      StoreStep s h (.postProof c m o st tp true nc) s'
  | joined {s' : State} (c m o : String) (st nc : Int) (f : File) (p' : Proof) :
      AMap.get s.files (m, o, st) = some f → (c, (m, o, st)) ∉ f.proofs →
      (postProof s h c m o st 0 true nc).success = true →
      p'.prover = c → p'.lastProven = h →
      s'.files = AMap.set s.files (m, o, st) { f with proofs := f.proofs ++ [(c, (m, o, st))] } →
      s'.proofs = AMap.set s.proofs (c, (m, o, st)) p' →
      StoreStep s h (.postProof c m o st 0 true nc) s'
  | attested {s' : State} (c pr m o : String) (st : Int) (fm : Form) (p : Proof) :
      AMap.get s.attests (pr, (m, o, st)) = some fm →
      AMap.get s.proofs (fm.prover, fm.merkle, fm.owner, fm.start) = some p →
      s'.files = s.files →
      s'.proofs = AMap.set s.proofs (fm.prover, fm.merkle, fm.owner, fm.start) { p with lastProven := h } →
      StoreStep s h (.attest c pr m o st) s'
  | reported {s' : State} (c pr m o : String) (st : Int) (fm : Form) (f : File) :
      AMap.get s.reports (pr, (m, o, st)) = some fm →
      ¬ completeCount (signed fm.attestations c) < s.params.attestMinToPass →
      AMap.get s.files (m, o, st) = some f → (pr, (m, o, st)) ∈ f.proofs →
      s'.files = AMap.set s.files (m, o, st) { f with proofs := f.proofs.filter (· ≠ (pr, (m, o, st))) } →
      s'.proofs = AMap.erase s.proofs (pr, (m, o, st)) →
      StoreStep s h (.report c pr m o st) s'

theorem step_storeStep {s s' : State} {h now : Int} {op : Op}
    (hkey : ∀ k f, AMap.get s.files k = some f → f.key = k)
    (hs : step s h now op = some s') : StoreStep s h op s' := by
  by_cases hop : op.isStoreOp = false
  · have e := step_sameStore hop hs
    exact .same e.files e.proofs (by rintro _ _ _ _ _ _ _ rfl; cases hop)
  cases op with
  | postFile c m fs mp ex pt note nv jp gid gacc =>
    obtain ⟨_, _, _, rfl⟩ := postFile_writes hs
    exact .posted c m fs mp ex pt note nv jp gid gacc _ rfl rfl rfl
  | deleteFile c m st =>
    cases hs
    exact .deleted c m st
  | postProof c m o st tp v nc =>
    cases hs
    rcases postProof_outcome s h c m o st tp v nc with
      e | ⟨f, p, hf, hl, hp, rfl, rfl, e⟩ | ⟨f, hf, hl, -, rfl, rfl, e⟩
    · rw [e]
      exact .same rfl rfl (by rintro _ _ _ _ _ _ _ ⟨⟩; rw [e])
    -- the file is stored under its own key, so the key the message names is the file's
    · obtain ⟨rfl, rfl, rfl⟩ := File.key_eq (hkey _ _ hf)
      have hsucc := congrArg Reported.success e
      rw [e]
      exact .proved c _ _ _ _ nc f p (renewed s h nc f p) hf hl hp hsucc rfl rfl rfl rfl
    · obtain ⟨rfl, rfl, rfl⟩ := File.key_eq (hkey _ _ hf)
      have hsucc := congrArg Reported.success e
      rw [e]
      exact .joined c _ _ _ nc f (freshProof s h nc c f) hf hl hsucc rfl rfl rfl rfl
  | requestAttest c m o st ec ch =>
    cases hs
    cases requestForm s.attests s c m o st ec ch <;> exact .same rfl rfl (fun _ _ _ _ _ _ _ e => Op.noConfusion e)
  | attest c p m o st =>
    cases hs
    rcases attest_cases s h c p m o st with ⟨e, -⟩ | ⟨fm, -, -, -, e⟩ | ⟨fm, f, p0, hg, -, -, hf, -, hp, e⟩
    · rw [e]; exact .same rfl rfl (fun _ _ _ _ _ _ _ e => Op.noConfusion e)
    · rw [e]; exact .same rfl rfl (fun _ _ _ _ _ _ _ e => Op.noConfusion e)
    · have hk : f.key = (fm.merkle, fm.owner, fm.start) := hkey _ _ hf
      rw [e]
      rw [hk] at hp
      exact .attested c p m o st fm p0 hg hp rfl (by rw [hk])
  | requestReport c p m o st ec ch =>
    cases hs
    cases requestForm s.reports s p m o st ec ch <;> exact .same rfl rfl (fun _ _ _ _ _ _ _ e => Op.noConfusion e)
  | report c p m o st =>
    obtain ⟨fm, hg, -, ⟨-, rfl⟩ | ⟨hq, f, hf, rfl⟩⟩ := report_cases hs
    · exact .same rfl rfl (fun _ _ _ _ _ _ _ e => Op.noConfusion e)
    · obtain ⟨rfl, rfl, rfl⟩ := File.key_eq (hkey _ _ hf)
      by_cases hl : (p, f.key) ∈ f.proofs
      · rw [removeProver_of_mem _ _ _ hl]
        exact .reported c p _ _ _ fm f hg hq hf hl rfl rfl
      · rw [removeProver_eq, if_neg hl]
        exact .same rfl rfl (fun _ _ _ _ _ _ _ e => Op.noConfusion e)
  | _ => exact absurd rfl hop

/-- What a delivered message does to the file stored under `k`: nothing; it is deleted; it is a
newly posted file without provers; the sender of an accepted first proof is appended to its prover
list; or a reported prover is struck off it.  (`hkey`: files are stored under their own keys.) -/
theorem step_files_get {s s' : State} {h now : Int} {op : Op}
    (hkey : ∀ k f, AMap.get s.files k = some f → f.key = k)
    (hs : step s h now op = some s') (k : FKey) :
    AMap.get s'.files k = AMap.get s.files k ∨ AMap.get s'.files k = none ∨
    (∃ nf fs mp ex pt note nv jp gid gacc, op = .postFile k.2.1 k.1 fs mp ex pt note nv jp gid gacc ∧
      k.2.2 = h ∧ nf.proofs = [] ∧ AMap.get s'.files k = some nf) ∨
    (∃ f c nc, op = .postProof c k.1 k.2.1 k.2.2 0 true nc ∧ AMap.get s.files k = some f ∧
      AMap.get s'.files k = some { f with proofs := f.proofs ++ [(c, k)] }) ∨
    (∃ f pk, AMap.get s.files k = some f ∧
      AMap.get s'.files k = some { f with proofs := f.proofs.filter (· ≠ pk) }) := by
  -- a store written at `k0` only
  have at_key : ∀ {k0 : FKey} {g : File}, s'.files = AMap.set s.files k0 g → k ≠ k0 →
      AMap.get s'.files k = AMap.get s.files k :=
    fun e hk => e ▸ AMap.get_set_ne hk
  cases step_storeStep hkey hs with
  | same e1 | proved _ _ _ _ _ _ _ _ _ _ _ _ _ _ _ e1 | attested _ _ _ _ _ _ _ _ _ e1 =>
    exact Or.inl (by rw [e1])
  | deleted c m st =>
    by_cases hk : k = (m, c, st)
    · exact Or.inr (Or.inl (by rw [removeFile_files_get, if_pos hk.symm]))
    · exact Or.inl (removeFile_files_other _ _ _ hk)
  | posted c m fs mp ex pt note nv jp gid gacc nf hnil e1 =>
    by_cases hk : k = (m, c, h)
    · subst hk
      exact Or.inr (Or.inr (Or.inl ⟨nf, fs, mp, ex, pt, note, nv, jp, gid, gacc, rfl, rfl, hnil,
        by rw [e1]; exact AMap.get_set_self _ _ _⟩))
    · exact Or.inl (by rw [e1, AMap.get_set_ne hk, removeFile_files_other _ _ _ hk])
  | joined c m o st nc f _ hf _ _ _ _ e1 =>
    by_cases hk : k = (m, o, st)
    · subst hk
      exact Or.inr (Or.inr (Or.inr (Or.inl ⟨f, c, nc, rfl, hf, by rw [e1]; exact AMap.get_set_self _ _ _⟩)))
    · exact Or.inl (at_key e1 hk)
  | reported c pr m o st _ f _ _ hf _ e1 =>
    by_cases hk : k = (m, o, st)
    · subst hk
      exact Or.inr (Or.inr (Or.inr (Or.inr ⟨f, _, hf, by rw [e1]; exact AMap.get_set_self _ _ _⟩)))
    · exact Or.inl (at_key e1 hk)

/-! ### the reward block -/

/-- the fields the reward block's file management never writes, except `canon`, which has no clause
here (it writes `files`, `files2`, `proofs`, `providers`, and `payinfo` when it drops an empty file) -/
structure SameRest (s s' : State) : Prop where
  attests : s'.attests = s.attests
  reports : s'.reports = s.reports
  collateral : s'.collateral = s.collateral
  gauges : s'.gauges = s.gauges
  bank : s'.bank = s.bank
  params : s'.params = s.params
  moduleAcc : s'.moduleAcc = s.moduleAcc
  collateralAcc : s'.collateralAcc = s.collateralAcc
  polAcc : s'.polAcc = s.polAcc
  feeAcc : s'.feeAcc = s.feeAcc
  blocked : s'.blocked = s.blocked

theorem SameRest.refl (s : State) : SameRest s s := ⟨rfl, rfl, rfl, rfl, rfl, rfl, rfl, rfl, rfl, rfl, rfl⟩

theorem SameRest.trans {a b c : State} (h1 : SameRest a b) (h2 : SameRest b c) : SameRest a c :=
  ⟨h2.attests.trans h1.attests, h2.reports.trans h1.reports, h2.collateral.trans h1.collateral,
   h2.gauges.trans h1.gauges, h2.bank.trans h1.bank, h2.params.trans h1.params,
   h2.moduleAcc.trans h1.moduleAcc, h2.collateralAcc.trans h1.collateralAcc,
   h2.polAcc.trans h1.polAcc, h2.feeAcc.trans h1.feeAcc, h2.blocked.trans h1.blocked⟩

theorem removeFile_rest (s : State) (k : FKey) : SameRest s (removeFile s k) := by
  rw [removeFile_writes]; exact ⟨rfl, rfl, rfl, rfl, rfl, rfl, rfl, rfl, rfl, rfl, rfl⟩

theorem dropProver_rest (s : State) (f : File) (pk : PKey) : SameRest s (dropProver s f pk).1 :=
  ⟨rfl, rfl, rfl, rfl, rfl, rfl, rfl, rfl, rfl, rfl, rfl⟩

theorem burnContract_rest (s : State) (a : String) : SameRest s (burnContract s a) := by
  rw [burnContract_writes]; exact ⟨rfl, rfl, rfl, rfl, rfl, rfl, rfl, rfl, rfl, rfl, rfl⟩

def File.ShrinkOf (f' f : File) : Prop :=
  f' = { f with proofs := f'.proofs } ∧ f'.proofs.Sublist f.proofs

theorem File.ShrinkOf.refl (f : File) : File.ShrinkOf f f := ⟨rfl, List.Sublist.refl _⟩

theorem File.ShrinkOf.trans {a b c : File} (h1 : File.ShrinkOf a b) (h2 : File.ShrinkOf b c) :
    File.ShrinkOf a c := by
  obtain ⟨e1, s1⟩ := h1
  obtain ⟨e2, s2⟩ := h2
  refine ⟨?_, s1.trans s2⟩
  rw [e1, e2]

theorem File.ShrinkOf.key {a b : File} (h : File.ShrinkOf a b) : a.key = b.key := by
  rw [h.1]; rfl

/-- Invariant of the loop of `manageFile` over the proof keys of `file`.  `x = ""` in `tracker`: a young
file passes even when a listed key has no record, and the loop then credits the zero-value proof's
`Prover ""` (`creditName`). -/
structure MFInv (s : State) (t : Tracker) (file : File) (a : State × Tracker × File) : Prop where
  stored : AMap.get a.1.files file.key = some a.2.2
  shrink : File.ShrinkOf a.2.2 file
  others : ∀ k, k ≠ file.key → AMap.get a.1.files k = AMap.get s.files k
  wf : AMap.WF s.files → AMap.WF a.1.files
  proofs : ∀ pk p, AMap.get a.1.proofs pk = some p → AMap.get s.proofs pk = some p
  erased : ∀ pk, pk ∉ file.proofs → AMap.get a.1.proofs pk = AMap.get s.proofs pk
  rest : SameRest s a.1
  payinfo : a.1.payinfo = s.payinfo
  tracker : ∀ x ∈ AMap.keys a.2.1, x ∈ AMap.keys t ∨ x = "" ∨
    ∃ pk ∈ file.proofs, ∃ p, AMap.get s.proofs pk = some p ∧ p.prover = x

theorem MFInv.removeProver {s : State} {t : Tracker} {file : File} {sA : State} {tA : Tracker} {fA : File}
    (inv : MFInv s t file (sA, tA, fA)) {pk : PKey} (hpk : pk ∈ file.proofs) :
    MFInv s t file ((removeProver sA fA pk).1, tA, (removeProver sA fA pk).2) := by
  rw [removeProver_eq]
  split
  · obtain ⟨stored, shrink, others, wf, proofs, erased, rest, payinfo, tracker⟩ := inv
    have hkey : fA.key = file.key := shrink.key
    exact ⟨by rw [← hkey]; exact AMap.get_set_self _ _ _,
      File.ShrinkOf.trans ⟨rfl, List.filter_sublist⟩ shrink,
      fun k hk => (AMap.get_set_ne (fun e => hk (e.trans hkey))).trans (others k hk),
      fun hwf => AMap.wf_set _ _ (wf hwf), AMap.forall_erase proofs pk,
      fun pk' hpk' => (AMap.get_erase_other (fun e : pk = pk' => hpk' (e ▸ hpk))).trans (erased pk' hpk'),
      rest.trans (dropProver_rest sA fA pk), payinfo, tracker⟩
  · exact inv

theorem MFInv.burn {s : State} {t : Tracker} {file : File} {sA : State} {tA : Tracker} {fA : File}
    (inv : MFInv s t file (sA, tA, fA)) (x : String) : MFInv s t file (burnContract sA x, tA, fA) :=
  have r := inv.rest.trans (burnContract_rest sA x)
  by rw [burnContract_writes] at r ⊢
     exact ⟨inv.stored, inv.shrink, inv.others, inv.wf, inv.proofs, inv.erased, r, inv.payinfo, inv.tracker⟩

theorem MFInv.step {s : State} {t : Tracker} {file : File} {a : State × Tracker × File}
    (h : Int) (pk : PKey) (hpk : pk ∈ file.proofs) (inv : MFInv s t file a) :
    MFInv s t file (manageProof a.1 h a.2.1 a.2.2 pk) := by
  obtain ⟨sA, tA, fA⟩ := a
  cases hp : passes sA h fA pk with
  | true =>
    rw [manageProof_pass sA h tA fA pk hp]
    refine ⟨inv.stored, inv.shrink, inv.others, inv.wf, inv.proofs, inv.erased, inv.rest, inv.payinfo, ?_⟩
    intro y hy
    rcases (credit_keys _ _ _ _).mp hy with hy | rfl
    · exact inv.tracker y hy
    · rcases creditName_cases sA pk with e | ⟨p, hg, e⟩
      · exact Or.inr (Or.inl e)
      · exact Or.inr (Or.inr ⟨pk, hpk, p, inv.proofs pk p hg, e⟩)
  | false =>
    rw [manageProof_fail sA h tA fA pk hp]
    split
    · exact (inv.removeProver hpk).burn _
    · exact inv.removeProver hpk

theorem runProofs_inv (s : State) (h : Int) (t : Tracker) (file : File)
    (hget : AMap.get s.files file.key = some file) :
    MFInv s t file (runProofs h file.proofs s t file) :=
  foldl_inv_mem (MFInv s t file) _ file.proofs (fun _ pk hpk inv => inv.step h pk hpk) _
    ⟨hget, File.ShrinkOf.refl _, fun _ _ => rfl, fun h => h, fun _ _ h => h, fun _ _ => rfl,
      SameRest.refl s, rfl, fun _ hx => Or.inl hx⟩

structure MFOut (s : State) (t : Tracker) (file : File) (r : State × Tracker) : Prop where
  atKey : ∀ f', AMap.get r.1.files file.key = some f' → File.ShrinkOf f' file
  others : ∀ k, k ≠ file.key → AMap.get r.1.files k = AMap.get s.files k
  wf : AMap.WF s.files → AMap.WF r.1.files
  proofs : ∀ pk p, AMap.get r.1.proofs pk = some p → AMap.get s.proofs pk = some p
  erased : ∀ pk, pk ∉ file.proofs → AMap.get r.1.proofs pk = AMap.get s.proofs pk
  rest : SameRest s r.1
  tracker : ∀ x ∈ AMap.keys r.2, x ∈ AMap.keys t ∨ x = "" ∨
    ∃ pk ∈ file.proofs, ∃ p, AMap.get s.proofs pk = some p ∧ p.prover = x

theorem manageFile_out (s : State) (h : Int) (t : Tracker) (file : File)
    (hget : AMap.get s.files file.key = some file) : MFOut s t file (manageFile s h t file) := by
  have others := fun k hk => manageFile_files_other s h t file (k := k) hk
  rcases manageFile_cases s h t file with ⟨hnil, _, e⟩ | ⟨_, e⟩ <;> rw [e] at others ⊢
  · refine ⟨?_, others, removeFile_wf s _, proofs_get_of_removeFile s _, ?_, removeFile_rest s _,
      fun x hx => Or.inl hx⟩
    · intro f' hf'
      rw [removeFile_files_get, if_pos rfl] at hf'; cases hf'
    · intro pk _
      rw [removeFile_some hget, hnil]; rfl
  · obtain ⟨stored, shrink, -, wf, proofs, erased, rest, _, tracker⟩ := runProofs_inv s h t file hget
    exact ⟨fun f' hf' => Option.some.inj (stored.symm.trans hf') ▸ shrink, others, wf, proofs, erased,
      rest, tracker⟩

/-- Induction principle for the file pass of the reward block on a consistent state: a property only
has to be preserved by `manageFile` on files that are stored as they were read. -/
theorem Consistent.filePass_ind {s : State} (hc : Consistent s) (h : Int) (P : State × Tracker → Prop)
    (hstep : ∀ a kv, kv ∈ s.files → AMap.get a.1.files kv.2.key = some kv.2 → kv.2.key = kv.1 →
      P a → P (manageFile a.1 h a.2 kv.2))
    (h0 : P (s, [])) : P (filePass h s.files s []) :=
  have hkey : ∀ kv ∈ s.files, kv.2.key = kv.1 := fun _ hkv => hc.key _ _ (AMap.get_of_mem_wf hc.wf hkv)
  filePass_stored_ind P h hc.wf hkey
    (fun a kv hkv hget hp => hstep a kv hkv ((hkey kv hkv).symm ▸ hget) (hkey kv hkv) hp) h0

/-! ### provers that proved recently survive the reward block -/

/-- the record of proof key `pk` exists and is recent enough for `file` at reward height `h`
(the file is young, or the last accepted proof is not older than the previous window) -/
def Recent (s : State) (h : Int) (file : File) (pk : PKey) : Prop :=
  ∃ p, AMap.get s.proofs pk = some p ∧
    (isYoung h file.start file.proofInterval = true ∨
     provenLastBlock h file.start file.proofInterval p.lastProven = true)

theorem passes_of_recent {s : State} {h : Int} {file : File} {pk : PKey} (hr : Recent s h file pk) :
    passes s h file pk = true := by
  obtain ⟨p, hp, hok⟩ := hr
  unfold passes
  rw [hp]
  exact Bool.or_eq_true_iff.mpr hok

theorem manageProof_recent (s : State) (h : Int) (t : Tracker) (file : File) (pk : PKey) (p : Proof)
    (hp : AMap.get s.proofs pk = some p)
    (hok : isYoung h file.start file.proofInterval = true ∨
      provenLastBlock h file.start file.proofInterval p.lastProven = true) :
    manageProof s h t file pk = (s, credit t p.prover file.fileSize, file) := by
  rw [manageProof_pass s h t file pk (passes_of_recent ⟨p, hp, hok⟩)]
  unfold creditName; rw [hp]

structure KeepInv (s : State) (h : Int) (file : File) (a : State × Tracker × File) : Prop where
  start : a.2.2.start = file.start
  interval : a.2.2.proofInterval = file.proofInterval
  records : ∀ pk, Recent s h file pk → AMap.get a.1.proofs pk = AMap.get s.proofs pk
  listed : ∀ pk, Recent s h file pk → pk ∈ file.proofs → pk ∈ a.2.2.proofs
  providers : ∀ x, (∀ pk ∈ file.proofs, pk.1 = x → Recent s h file pk) →
    AMap.get a.1.providers x = AMap.get s.providers x

theorem KeepInv.step {s : State} {h : Int} {file : File} {a : State × Tracker × File}
    (pk' : PKey) (hpk' : pk' ∈ file.proofs) (inv : KeepInv s h file a) :
    KeepInv s h file (manageProof a.1 h a.2.1 a.2.2 pk') := by
  obtain ⟨sA, tA, fA⟩ := a
  obtain ⟨start, interval, records, listed, providers⟩ := inv
  cases hp : passes sA h fA pk' with
  | true =>
    rw [manageProof_pass sA h tA fA pk' hp]
    exact ⟨start, interval, records, listed, providers⟩
  | false =>
    -- `pk'` does not pass, so it is not one of the recent ones
    have hnot : ¬ Recent s h file pk' := fun hr => by
      rw [passes_congr (records pk' hr) start interval, passes_of_recent hr] at hp; cases hp
    have core : KeepInv s h file ((removeProver sA fA pk').1, tA, (removeProver sA fA pk').2) := by
      rw [removeProver_eq]
      split
      · exact ⟨start, interval,
          fun pk hr => (AMap.get_erase_other (fun e : pk' = pk => hnot (e ▸ hr))).trans (records pk hr),
          fun pk hr hin => List.mem_filter.mpr ⟨listed pk hr hin,
            decide_eq_true (fun e : pk = pk' => hnot (e ▸ hr))⟩,
          providers⟩
      · exact ⟨start, interval, records, listed, providers⟩
    rw [manageProof_fail sA h tA fA pk' hp]
    split
    · refine ⟨core.start, core.interval, ?_, core.listed, fun x hx => ?_⟩
      · rw [burnContract_writes]; exact core.records
      · rw [burnContract_providers, if_neg (fun e : pk'.1 = x => hnot (hx pk' hpk' e)), map_bump_zero]
        exact core.providers x hx
    · exact core

theorem runProofs_keep (s : State) (h : Int) (t : Tracker) (file : File) :
    KeepInv s h file (runProofs h file.proofs s t file) :=
  foldl_inv_mem (KeepInv s h file) _ file.proofs (fun _ pk hpk inv => inv.step pk hpk) _
    ⟨rfl, rfl, fun _ _ => rfl, fun _ _ h => h, fun _ _ => rfl⟩

/-- `manageFile` on a stored file: every recent prover stays listed with its record untouched, and
a provider none of whose proof keys in this file is stale keeps its burn counter -/
theorem manageFile_keeps_recent (s : State) (h : Int) (t : Tracker) (file : File)
    (hget : AMap.get s.files file.key = some file) :
    (∀ pk ∈ file.proofs, Recent s h file pk →
      AMap.get (manageFile s h t file).1.proofs pk = AMap.get s.proofs pk ∧
      ∃ f', AMap.get (manageFile s h t file).1.files file.key = some f' ∧ pk ∈ f'.proofs) ∧
    (∀ x, (∀ pk ∈ file.proofs, pk.1 = x → Recent s h file pk) →
      AMap.get (manageFile s h t file).1.providers x = AMap.get s.providers x) := by
  rcases manageFile_cases s h t file with ⟨hnil, _, e⟩ | ⟨_, e⟩ <;> rw [e]
  · exact ⟨fun pk hpk => absurd (hnil ▸ hpk) List.not_mem_nil,
      fun x _ => by rw [removeFile_providers]⟩
  · have keep := runProofs_keep s h t file
    exact ⟨fun pk hpk hr => ⟨keep.records pk hr, _, (runProofs_inv s h t file hget).stored,
      keep.listed pk hr hpk⟩, keep.providers⟩

theorem runProofs_all_recent (h : Int) (file : File) :
    ∀ (l : List PKey) (s : State) (t : Tracker), (∀ pk ∈ l, Recent s h file pk) →
      ∃ t', runProofs h l s t file = (s, t', file)
  | [], s, t, _ => ⟨t, rfl⟩
  | pk :: l, s, t, hall => by
    rw [runProofs_cons, manageProof_pass s h t file pk (passes_of_recent (hall pk List.mem_cons_self))]
    exact runProofs_all_recent h file l s _ (fun x hx => hall x (List.mem_cons_of_mem _ hx))

def CreditedProver (s : State) (x : String) : Prop :=
  ∃ kv ∈ s.files, ∃ pk ∈ kv.2.proofs, ∃ p, AMap.get s.proofs pk = some p ∧ p.prover = x

structure BlockInv (s : State) (a : State × Tracker) : Prop where
  shrinks : ∀ k f', AMap.get a.1.files k = some f' →
    ∃ f, AMap.get s.files k = some f ∧ File.ShrinkOf f' f
  wf : AMap.WF a.1.files
  proofs : ∀ pk p, AMap.get a.1.proofs pk = some p → AMap.get s.proofs pk = some p
  rest : SameRest s a.1
  tracker : ∀ x ∈ AMap.keys a.2, x = "" ∨ CreditedProver s x

theorem filePass_blockInv (s : State) (h : Int) (hc : Consistent s) :
    BlockInv s (filePass h s.files s []) := by
  apply hc.filePass_ind h (BlockInv s)
  · intro a kv hkv hget hkey ⟨shrinks, wf, proofs, rest, tracker⟩
    have out := manageFile_out a.1 h a.2 kv.2 hget
    refine ⟨?_, out.wf wf, fun pk p hp => proofs pk p (out.proofs pk p hp), rest.trans out.rest, ?_⟩
    · intro k f' hf'
      by_cases hk : k = kv.2.key
      · subst hk
        obtain ⟨f, hf, hsh⟩ := shrinks _ _ hget
        exact ⟨f, hf, (out.atKey f' hf').trans hsh⟩
      · rw [out.others k hk] at hf'
        exact shrinks k f' hf'
    · intro x hx
      rcases out.tracker x hx with hx | hx | ⟨pk, hpk, p, hp, hx⟩
      · exact tracker x hx
      · exact Or.inl hx
      · exact Or.inr ⟨kv, hkv, pk, hpk, p, proofs pk p hp, hx⟩
  · exact ⟨fun k f' hf' => ⟨f', hf', File.ShrinkOf.refl _⟩, hc.wf, fun _ _ h => h, SameRest.refl s,
      fun x hx => absurd hx List.not_mem_nil⟩

def HonestProvider (s : State) (h : Int) (x : String) : Prop :=
  ∀ k f, AMap.get s.files k = some f → ∀ pk ∈ f.proofs, pk.1 = x → Recent s h f pk

theorem Recent.transfer {s s' : State} {h : Int} {f : File} {pk : PKey}
    (e : AMap.get s'.proofs pk = AMap.get s.proofs pk) (hr : Recent s h f pk) : Recent s' h f pk := by
  obtain ⟨p, hp, hok⟩ := hr
  exact ⟨p, by rw [e]; exact hp, hok⟩

structure KeepBlock (s : State) (h : Int) (a : State × Tracker) : Prop where
  provers : ∀ k f pk, AMap.get s.files k = some f → pk ∈ f.proofs → Recent s h f pk →
    AMap.get a.1.proofs pk = AMap.get s.proofs pk ∧
    ∃ fA, AMap.get a.1.files k = some fA ∧ pk ∈ fA.proofs
  providers : ∀ x, HonestProvider s h x → AMap.get a.1.providers x = AMap.get s.providers x

theorem filePass_keep (s : State) (h : Int) (hc : Consistent s) :
    KeepBlock s h (filePass h s.files s []) := by
  apply hc.filePass_ind h (KeepBlock s h)
  · intro a kv hkv hget hkey ⟨provers, providers⟩
    have hs : AMap.get s.files kv.1 = some kv.2 := AMap.get_of_mem_wf hc.wf hkv
    have out := manageFile_out a.1 h a.2 kv.2 hget
    obtain ⟨keep1, keep2⟩ := manageFile_keeps_recent a.1 h a.2 kv.2 hget
    constructor
    · intro k f pk hf hpk hr
      obtain ⟨e, fA, hfA, hin⟩ := provers k f pk hf hpk hr
      by_cases hk : k = kv.1
      · subst hk
        rw [hs] at hf; cases hf
        obtain ⟨e', f', hf', hin'⟩ := keep1 pk hpk (hr.transfer e)
        rw [hkey] at hf'
        exact ⟨e'.trans e, f', hf', hin'⟩
      · have hnot : pk ∉ kv.2.proofs := fun hmem =>
          hk ((hc.listed _ _ hf pk hpk).symm.trans (hc.listed _ _ hs pk hmem))
        refine ⟨(out.erased pk hnot).trans e, fA, ?_, hin⟩
        rw [out.others k (by rw [hkey]; exact hk)]; exact hfA
    · intro x hx
      rw [keep2 x (fun pk hpk hpx => ?_)]
      · exact providers x hx
      · have hr := hx _ _ hs pk hpk hpx
        exact hr.transfer (provers _ _ pk hs hpk hr).1
  · exact ⟨fun k f pk hf hpk _ => ⟨rfl, f, hf, hpk⟩, fun _ _ => rfl⟩

section pay
open Bank

/-- gauges release and payouts write only `gauges` and `bank` -/
structure PayRel (s s' : State) : Prop where
  files : s'.files = s.files
  files2 : s'.files2 = s.files2
  proofs : s'.proofs = s.proofs
  providers : s'.providers = s.providers
  payinfo : s'.payinfo = s.payinfo
  attests : s'.attests = s.attests
  reports : s'.reports = s.reports
  collateral : s'.collateral = s.collateral
  params : s'.params = s.params
  moduleAcc : s'.moduleAcc = s.moduleAcc
  collateralAcc : s'.collateralAcc = s.collateralAcc
  polAcc : s'.polAcc = s.polAcc
  feeAcc : s'.feeAcc = s.feeAcc
  blocked : s'.blocked = s.blocked

/-- third conjunct: only the module account and the `prover` names of records listed in `s` can gain
in the reward block -/
theorem manageRewards_out {s s' : State} {h now : Int} (hc : Consistent s)
    (hs : manageRewards s h now = .ok s') :
    BlockInv s (filePass h s.files s []) ∧ PayRel (filePass h s.files s []).1 s' ∧
      ∀ a d, a ≠ s.moduleAcc → ¬ CreditedProver s a → bal s'.bank a d ≤ bal s.bank a d := by
  obtain ⟨s2, coins, hpull, hpay⟩ := manageRewards_spec hs
  have inv := filePass_blockInv s h hc
  generalize filePass h s.files s [] = L at *
  obtain ⟨b1, gs, rfl, -, hb1⟩ := pullGauges_spec hpull
  obtain ⟨b2, hb2, rfl⟩ := payLoop_spec hpay
  refine ⟨inv, ⟨rfl, rfl, rfl, rfl, rfl, rfl, rfl, rfl, rfl, rfl, rfl, rfl, rfl, rfl⟩, fun a d ha hq => ?_⟩
  have h1 := hb1.bal_le_of_not_recipient (a := a) (by rw [inv.rest.moduleAcc]; exact ha) d
  rw [inv.rest.bank] at h1
  refine Int.le_trans (hb2.bal_le_of_not_recipient (fun ⟨hm, hne, _⟩ => hq ?_) d) h1
  obtain ⟨pw, hpw, rfl⟩ := List.mem_map.mp hm
  exact (inv.tracker _ (List.mem_map_of_mem (List.mem_mergeSort.mp hpw))).resolve_left hne
end pay

theorem manageRewards_shrinks {s s' : State} {h now : Int} (hc : Consistent s)
    (hs : manageRewards s h now = .ok s') :
    ∀ k f', AMap.get s'.files k = some f' → ∃ f, AMap.get s.files k = some f ∧ File.ShrinkOf f' f := by
  obtain ⟨inv, rel, _⟩ := manageRewards_out hc hs
  rw [rel.files]; exact inv.shrinks

theorem manageRewards_keep {s s' : State} {h now : Int} (hc : Consistent s)
    (hs : manageRewards s h now = .ok s') : KeepBlock s h (s', []) := by
  obtain ⟨_, rel, _⟩ := manageRewards_out hc hs
  have keep := filePass_keep s h hc
  refine ⟨fun k f pk hf hpk hr => ?_, fun x hx => ?_⟩
  · show AMap.get s'.proofs pk = _ ∧ ∃ fA, AMap.get s'.files k = some fA ∧ _
    rw [rel.proofs, rel.files]; exact keep.provers k f pk hf hpk hr
  · show AMap.get s'.providers x = _
    rw [rel.providers]; exact keep.providers x hx

theorem consistent_manageRewards {s s' : State} {h now : Int} (hc : Consistent s)
    (hs : manageRewards s h now = .ok s') : Consistent s' := by
  obtain ⟨inv, rel, _⟩ := manageRewards_out hc hs
  have shrinks := manageRewards_shrinks hc hs
  refine ⟨by rw [rel.files]; exact inv.wf, ?_, ?_, ?_, ?_⟩
  · intro k f' hf'
    obtain ⟨f, hf, hsh⟩ := shrinks k f' hf'
    rw [hsh.key]; exact hc.key k f hf
  · intro k f' hf' pk hpk
    obtain ⟨f, hf, hsh⟩ := shrinks k f' hf'
    exact hc.listed k f hf pk (hsh.2.subset hpk)
  · intro pk p hp
    rw [rel.proofs] at hp
    exact hc.record pk p (inv.proofs pk p hp)
  · rw [rel.attests, inv.rest.attests]; exact hc.form

theorem consistent_beginBlock {s s' : State} {h now : Int} (hc : Consistent s)
    (hs : beginBlock s h now = .ok s') : Consistent s' := by
  obtain ⟨-, ⟨-, rfl⟩ | ⟨-, hm⟩⟩ := beginBlock_spec hs
  · exact hc
  · exact consistent_manageRewards hc hm

/-- consistency read off the bindings of the three stores: on a literal state each premise is decidable -/
theorem Consistent.of_forall (s : State) (wf : (AMap.keys s.files).Nodup)
    (hf : ∀ kv ∈ s.files, kv.2.key = kv.1 ∧ ∀ pk ∈ kv.2.proofs, pk.2 = kv.1)
    (hp : ∀ kv ∈ s.proofs, kv.2.prover = kv.1.1)
    (ha : ∀ kv ∈ s.attests, (kv.2.prover, kv.2.merkle, kv.2.owner, kv.2.start) = kv.1) : Consistent s :=
  ⟨wf, fun _ _ h => (hf _ (AMap.mem_of_get h)).1, fun _ _ h => (hf _ (AMap.mem_of_get h)).2,
   fun _ _ h => hp _ (AMap.mem_of_get h), fun _ _ h => ha _ (AMap.mem_of_get h)⟩

theorem consistent_of_empty (s : State) (h1 : s.files = []) (h2 : s.proofs = []) (h3 : s.attests = []) :
    Consistent s :=
  .of_forall s (h1 ▸ List.nodup_nil) (h1 ▸ fun _ h => nomatch h) (h2 ▸ fun _ h => nomatch h)
    (h3 ▸ fun _ h => nomatch h)

/-- What happens on chain: a delivered message, the begin-blocker, or a governance change of the
module parameters.  Runs of these are partial (`applyEvent`, `foldlM`): a history containing a failed
message or a panicking block has no run.  C01, C02 and C15 use this notion; `Ev`/`runEvs` of
Proofs/Index.lean (C07, C14, C17, C19) is the total one, where a failed event leaves the state as it
was, and has no `setParams`. -/
inductive Event where
  | msg (h now : Int) (op : Op)
  | block (h now : Int)
  | setParams (p : Params)

/-- `none` = the message returned an error (dropped) resp. the begin-blocker panicked -/
def applyEvent (s : State) : Event → Option State
  | .msg h now op => step s h now op
  | .block h now =>
    match beginBlock s h now with
    | .ok s' => some s'
    | .error _ => none
  | .setParams p => some { s with params := p }

theorem applyEvent_block {s s' : State} {h now : Int}
    (hs : applyEvent s (.block h now) = some s') : beginBlock s h now = .ok s' := by
  simp only [applyEvent] at hs
  split at hs
  · rename_i s2 hb; cases hs; exact hb
  · cases hs

theorem consistent_event {s s' : State} {e : Event} (hc : Consistent s)
    (hs : applyEvent s e = some s') : Consistent s' := by
  cases e with
  | msg h now op => exact consistent_step hc hs
  | block h now => exact consistent_beginBlock hc (applyEvent_block hs)
  | setParams p => cases hs; exact hc.congr rfl rfl rfl

theorem run_cons {s s' : State} {e : Event} {evs : List Event} :
    (e :: evs).foldlM applyEvent s = some s' ↔
      ∃ s1, applyEvent s e = some s1 ∧ evs.foldlM applyEvent s1 = some s' := by
  simp only [List.foldlM_cons, bind, Option.bind_eq_some_iff]

theorem consistent_run (evs : List Event) : ∀ (s s' : State), Consistent s →
    evs.foldlM applyEvent s = some s' → Consistent s' := by
  induction evs with
  | nil => intro s s' hc h; cases h; exact hc
  | cons e evs ih =>
    intro s s' hc h
    obtain ⟨s1, h1, h2⟩ := run_cons.mp h
    exact ih s1 s' (consistent_event hc h1) h2

end Storage
end Canine
