/-
The storage genesis invariant (`Genesis.Storage.Inv`, Proofs/GenesisModules.lean) along histories:
every storage message, the reward block and parameter changes preserve it; `RawInv` follows from it
and slash-freeness of the string components of the stored keys (`SlashFree`), which is preserved as
well.  Both are read off the record updates the handlers return (Proofs/Handlers.lean) and, for the
reward block, off one induction over its writes (`beginBlock_ind`).  Used by Props/C19.lean.
-/
import Canine.Proofs.GenesisModules

namespace Canine.Genesis.SI
open Canine.Storage
open Canine.Genesis.Storage (Inv RawInv proofKeyOf formKeyOf)

def Good {K V : Type} [DecidableEq K] (keyOf : V → K) (m : AMap K V) : Prop := AMap.WF m ∧ Keyed keyOf m

section Good
variable {K V : Type} [DecidableEq K] {keyOf : V → K} {m : AMap K V}

theorem Good.set (h : Good keyOf m) (k : K) (v : V) (hv : keyOf v = k) : Good keyOf (AMap.set m k v) :=
  ⟨AMap.wf_set _ _ h.1, h.2.set _ _ hv⟩

theorem Good.erase (h : Good keyOf m) (k : K) : Good keyOf (AMap.erase m k) := ⟨AMap.wf_erase _ h.1, h.2.erase _⟩

theorem Good.get (h : Good keyOf m) {k : K} {v : V} (hg : AMap.get m k = some v) : keyOf v = k :=
  h.2 (k, v) (AMap.mem_of_get hg)

theorem Good.nil : Good keyOf ([] : AMap K V) := ⟨AMap.wf_nil, Keyed.nil⟩

end Good

/-- what `Inv` says beyond `IndexInv`: the part about the stores other than the two file indexes -/
structure Rest (s : State) : Prop where
  proofs : Keyed proofKeyOf s.proofs
  providers : Good (fun p : Provider => p.address) s.providers
  payinfo : Good (fun p : PayInfo => p.address) s.payinfo
  collateral : AMap.WF s.collateral
  gauges : Good (fun g : Gauge => g.id) s.gauges
  attests : Good formKeyOf s.attests
  reports : Good formKeyOf s.reports

theorem inv_iff (s : State) : Inv s ↔ IndexInv s ∧ Rest s := by
  constructor
  · intro h
    exact ⟨h.idx, h.keyProofs, ⟨h.wfProviders, h.keyProviders⟩, ⟨h.wfPayinfo, h.keyPayinfo⟩, h.wfCollateral,
      ⟨h.wfGauges, h.keyGauges⟩, ⟨h.wfAttests, h.keyAttests⟩, ⟨h.wfReports, h.keyReports⟩⟩
  · intro ⟨i, r⟩
    exact ⟨i, r.providers.1, r.payinfo.1, r.collateral, r.gauges.1, r.attests.1, r.reports.1, r.proofs,
      r.providers.2, r.payinfo.2, r.gauges.2, r.attests.2, r.reports.2⟩

/-! Each handler's result is an explicit record update of the state, so `Rest` of the result is `Rest`
of the state with the clauses of the written stores replaced. -/

theorem rest_removeFile {s : State} (k : FKey) (h : Rest s) : Rest (removeFile s k) := by
  cases hg : AMap.get s.files k with
  | none => rw [removeFile_none hg]; exact h
  | some f =>
    have hpi : Good (fun p : PayInfo => p.address) (refund s f) := by
      unfold refund
      split
      · split
        · exact h.payinfo.set _ _ rfl
        · exact h.payinfo
      · exact h.payinfo
    rw [removeFile_some hg]
    exact { h with proofs := foldl_inv _ _ (fun m pk hm => hm.erase pk) f.proofs s.proofs h.proofs, payinfo := hpi }

theorem rest_dropProver {s : State} (f : File) (pk : PKey) (hr : Rest s) : Rest (dropProver s f pk).1 :=
  { hr with proofs := hr.proofs.erase pk }

theorem rest_postFile {s s' : State} {h now : Int} {c m : String} {fs mp ex pt : Int} {note : String}
    {nv : Bool} {jp : Dec} {gid gacc : String}
    (hs : postFile s h now c m fs mp ex pt note nv jp gid gacc = some s') (hr : Rest s) : Rest s' := by
  have h1 := rest_removeFile (m, c, h) hr
  obtain ⟨-, -, -, -, ⟨-, cost, b1, -, -, -, -, -, -, -, -, e⟩ | ⟨-, pi, -, -, -, e⟩⟩ := postFile_spec hs
  · rw [e]; exact { h1 with gauges := hr.gauges.set _ _ rfl }
  · rw [e]; exact { h1 with payinfo := h1.payinfo.set _ _ rfl }

theorem rest_buyStorage {s s' : State} {now : Int} {c fa : String} {dd b : Int} {dn : String}
    {ref : Option String} {jp : Dec} {gid gacc : String}
    (hs : buyStorage s now c fa dd b dn ref jp gid gacc = some s') (hr : Rest s) : Rest s' := by
  obtain ⟨tp0, su, -, hp⟩ := buyStorage_spec hs
  obtain ⟨b1, b2, b3, -, -, -, -, -, -, -, -, -, -, -, e⟩ := buyPay_spec hp
  rw [e]; exact { hr with payinfo := hr.payinfo.set _ _ rfl, gauges := hr.gauges.set _ _ rfl }

theorem rest_initProvider {s s' : State} {c ip kb : String} {ts : Int} {iv : Bool}
    (hs : initProvider s c ip kb ts iv = some s') (hr : Rest s) : Rest s' := by
  obtain ⟨-, -, -, e⟩ := initProvider_spec hs
  rw [e]; exact { hr with collateral := AMap.wf_set _ _ hr.collateral, providers := hr.providers.set _ _ rfl }

theorem rest_shutdownProvider {s s' : State} {c : String}
    (hs : shutdownProvider s c = some s') (hr : Rest s) : Rest s' := by
  obtain ⟨-, ⟨amt, -, -, -, -, e⟩ | ⟨-, e⟩⟩ := shutdownProvider_spec hs
  · rw [e]; exact { hr with collateral := AMap.wf_erase _ hr.collateral, providers := hr.providers.erase _ }
  · rw [e]; exact { hr with providers := hr.providers.erase _ }

theorem rest_postProof (s : State) (h : Int) (c m o : String) (st tp : Int) (v : Bool) (nc : Int)
    (hr : Rest s) : Rest (postProof s h c m o st tp v nc).state := by
  rcases postProof_outcome s h c m o st tp v nc with e | ⟨f, p, -, -, hp, -, -, e⟩ | ⟨f, -, -, -, -, -, e⟩
  · rw [e]; exact hr
  · rw [e]
    have hk : proofKeyOf p = (c, f.key) := hr.proofs (_, p) (AMap.mem_of_get hp)
    exact { hr with proofs := hr.proofs.set _ _ hk }
  · rw [e]; exact { hr with proofs := hr.proofs.set _ _ rfl }

theorem good_requestForm {forms forms' : AMap PKey Form} {s : State} {pr m o : String} {st ec : Int} {ch : List String}
    (hi : IndexInv s) (hg : Good formKeyOf forms) (hs : requestForm forms s pr m o st ec ch = some forms') :
    Good formKeyOf forms' := by
  obtain ⟨f, hf, -, -, -, -, -, rfl⟩ := requestForm_spec hs
  have hk : f.key = (m, o, st) := (hi.ok _ _ hf).1
  exact hg.set _ _ (by rw [hk]; rfl)

theorem rest_attest (s : State) (h : Int) (c pr m o : String) (st : Int) (hr : Rest s) :
    Rest (attest s h c pr m o st) := by
  rcases attest_cases s h c pr m o st with ⟨e, -⟩ | ⟨form, hg, -, -, e⟩ | ⟨form, f, p, -, -, -, -, -, hp, e⟩
  · rw [e]; exact hr
  · rw [e]
    have hk : formKeyOf form = (pr, (m, o, st)) := hr.attests.get hg
    exact { hr with attests := hr.attests.set _ _ hk }
  · rw [e]
    have hk : proofKeyOf p = (form.prover, f.key) := hr.proofs (_, p) (AMap.mem_of_get hp)
    exact { hr with proofs := hr.proofs.set _ _ hk, attests := hr.attests.erase _ }

theorem rest_report {s s' : State} {c pr m o : String} {st : Int}
    (hs : report s c pr m o st = some s') (hr : Rest s) : Rest s' := by
  obtain ⟨form, hg, -, ⟨-, e⟩ | ⟨-, f, -, e⟩⟩ := report_cases hs
  · rw [e]
    have hk : formKeyOf form = (pr, (m, o, st)) := hr.reports.get hg
    exact { hr with reports := hr.reports.set _ _ hk }
  · have h1 : Rest { s with reports := AMap.erase s.reports (pr, (m, o, st)) } := { hr with reports := hr.reports.erase _ }
    rw [e]; exact removeProver_cases Rest (rest_dropProver _ _ h1) h1

/-- The form requests read the index invariant: the form is stored under `(prover, f.key)` for the
file found under `(merkle, owner, start)`. -/
theorem rest_step (s s' : State) (h now : Int) (op : Op) (hstep : step s h now op = some s')
    (hi : IndexInv s) (hr : Rest s) : Rest s' := by
  cases op with
  | postFile c m fs mp ex pt note nv jp gid gacc => exact rest_postFile hstep hr
  | deleteFile c m st =>
    cases hstep
    exact rest_removeFile _ hr
  | buyStorage c fa dd b dn ref jp gid gacc => exact rest_buyStorage hstep hr
  | initProvider c ip kb ts iv => exact rest_initProvider hstep hr
  | shutdownProvider c => exact rest_shutdownProvider hstep hr
  | setProviderIP | setProviderKeybase | setProviderTotalSpace | addClaimer | removeClaimer =>
    obtain ⟨p, p', hp, ha, -, rfl⟩ := step_setter rfl hstep
    exact { hr with providers := hr.providers.set _ _ (ha.trans (hr.providers.get hp)) }
  | postProof c m o st tp v nc =>
    cases hstep
    exact rest_postProof _ _ _ _ _ _ _ _ _ hr
  | requestAttest c m o st ec ch =>
    cases hstep
    split
    · rename_i forms hf
      exact { hr with attests := good_requestForm hi hr.attests hf }
    · exact hr
  | attest c p m o st =>
    cases hstep
    exact rest_attest _ _ _ _ _ _ _ hr
  | requestReport c p m o st ec ch =>
    cases hstep
    split
    · rename_i forms hf
      exact { hr with reports := good_requestForm hi hr.reports hf }
    · exact hr
  | report c p m o st => exact rest_report hstep hr

theorem inv_step (s s' : State) (h now : Int) (op : Op) (hstep : step s h now op = some s') (hinv : Inv s) : Inv s' := by
  rw [inv_iff] at hinv ⊢
  exact ⟨indexInv_step hstep hinv.1, rest_step s s' h now op hstep hinv.1 hinv.2⟩

theorem inv_stepT (s : State) (h now : Int) (op : Op) (hinv : Inv s) : Inv (stepT s h now op) :=
  getD_inv hinv (fun s' hs => inv_step s s' h now op hs hinv)

theorem rest_burnContract {s : State} (p : String) (hr : Rest s) : Rest (burnContract s p) := by
  rcases burnContract_cases s p with e | ⟨pr, b, hp, e⟩
  · rw [e]; exact hr
  · rw [e]; exact { hr with providers := hr.providers.set _ _ (hr.providers.get hp : pr.address = p) }

theorem rest_beginBlock {s s' : State} {h now : Int}
    (hs : beginBlock s h now = .ok s') (hr : Rest s) : Rest s' :=
  beginBlock_ind Rest (fun _ => True) (hRF := fun _ f _ => rest_removeFile f.key)
    (hDP := fun _ f pk _ hr => ⟨rest_dropProver f pk hr, trivial⟩) (hBurn := fun _ a => rest_burnContract a)
    (hBank := fun _ _ hr => { hr with }) (hG := fun _ _ hr => { hr with gauges := hr.gauges.erase _ })
    (fun _ _ => trivial) hs hr

theorem inv_beginBlock {s s' : State} {h now : Int} (hs : beginBlock s h now = .ok s') (hinv : Inv s) : Inv s' := by
  rw [inv_iff] at hinv ⊢
  exact ⟨indexInv_beginBlock hs hinv.1, rest_beginBlock hs hinv.2⟩

theorem inv_params {s : State} (p : Params) (hinv : Inv s) : Inv { s with params := p } := by
  rw [inv_iff] at hinv ⊢
  exact ⟨hinv.1.frame rfl rfl rfl, { hinv.2 with }⟩

def EmptyStores (s : State) : Prop :=
  s.files = [] ∧ s.files2 = [] ∧ s.proofs = [] ∧ s.providers = [] ∧ s.payinfo = [] ∧ s.collateral = [] ∧
    s.gauges = [] ∧ s.attests = [] ∧ s.reports = []

theorem inv_empty {s : State} (h : EmptyStores s) : Inv s := by
  obtain ⟨a, b, c, d, e, f, g, i, j⟩ := h
  rw [inv_iff]
  refine ⟨indexInv_empty ⟨a, b, c⟩, ?_⟩
  exact ⟨c ▸ Keyed.nil, d ▸ Good.nil, e ▸ Good.nil, f ▸ AMap.wf_nil, g ▸ Good.nil, i ▸ Good.nil, j ▸ Good.nil⟩

/-! ### histories: the events of `C17_along_histories` (`Storage.Ev`: a delivered message or a block
boundary, `applyEv`) plus parameter changes -/

inductive HEv where
  | ev (e : Ev)
  | setParams (p : Params)
  deriving Repr

def applyH (s : State) : HEv → State
  | .ev e => applyEv s e
  | .setParams p => { s with params := p }

def runH (s : State) (evs : List HEv) : State := evs.foldl applyH s

theorem inv_applyH (s : State) (e : HEv) (hinv : Inv s) : Inv (applyH s e) := by
  cases e with
  | ev e =>
    exact applyEv_inv Inv e hinv (fun h now op s' _ hs => inv_step s s' h now op hs hinv)
      (fun _ _ _ _ hs => inv_beginBlock hs hinv)
  | setParams p => exact inv_params p hinv

theorem inv_runH (evs : List HEv) (s : State) (h : Inv s) : Inv (runH s evs) :=
  foldl_inv Inv applyH (fun s e => inv_applyH s e) evs s h

/-- the text contains no '/' (bech32 addresses and hex strings never do) -/
def NoSlash (x : String) : Prop := '/' ∉ x.toList

instance (x : String) : Decidable (NoSlash x) := by unfold NoSlash; infer_instance

/-- merkle (hex) and owner of a file key are slash-free -/
def FKeyOK (k : FKey) : Prop := NoSlash k.1 ∧ NoSlash k.2.1
def PKeyOK (pk : PKey) : Prop := NoSlash pk.1 ∧ FKeyOK pk.2

def KeysOK {K V : Type} [DecidableEq K] (P : K → Prop) (m : AMap K V) : Prop := ∀ k v, AMap.get m k = some v → P k

section KeysOK
variable {K V : Type} [DecidableEq K] {P : K → Prop} {m : AMap K V}

theorem KeysOK.nil : KeysOK P ([] : AMap K V) := fun _ _ h => by simp at h

theorem KeysOK.set (h : KeysOK P m) (k : K) (v : V) (hk : P k) : KeysOK P (AMap.set m k v) :=
  AMap.forall_set (P := fun k _ => P k) h hk

theorem KeysOK.set_bound (h : KeysOK P m) {k : K} {v0 : V} (hg : AMap.get m k = some v0) (v : V) :
    KeysOK P (AMap.set m k v) := h.set k v (h k v0 hg)

theorem KeysOK.erase (h : KeysOK P m) (k : K) : KeysOK P (AMap.erase m k) :=
  AMap.forall_erase (P := fun k _ => P k) h k

theorem rawNodup_of_inj_on {raw : K → String} (inj : ∀ a b, P a → P b → raw a = raw b → a = b)
    (hwf : AMap.WF m) (hp : KeysOK P m) : RawNodup raw m := by
  refine RawNodup.of_inj_on (fun a ha b hb e => ?_) hwf
  obtain ⟨va, hva⟩ := AMap.get_some_of_mem_keys ha
  obtain ⟨vb, hvb⟩ := AMap.get_some_of_mem_keys hb
  exact inj a b (hp a va hva) (hp b vb hvb) e

end KeysOK

/-- the text of a key: every segment followed by '/', then `tail` -/
def slashed (segs : List String) (tail : List Char) : List Char :=
  segs.foldr (fun x r => x.toList ++ '/' :: r) tail

/-- slash-free segments can be read back off the text, one `prefix_unique` per segment -/
theorem slashed_inj : ∀ {xs ys : List String} {r r' : List Char}, xs.length = ys.length →
    (∀ x ∈ xs, NoSlash x) → (∀ y ∈ ys, NoSlash y) → slashed xs r = slashed ys r' → xs = ys ∧ r = r'
  | [], [], _, _, _, _, _, h => ⟨rfl, h⟩
  | [], _ :: _, _, _, hl, _, _, _ => by simp at hl
  | _ :: _, [], _, _, hl, _, _, _ => by simp at hl
  | x :: xs, y :: ys, r, r', hl, hx, hy, h => by
    obtain ⟨e, h'⟩ := prefix_unique x.toList y.toList (slashed xs r) (slashed ys r')
      (hx x List.mem_cons_self) (hy y List.mem_cons_self) h
    obtain ⟨e', hr⟩ := slashed_inj (Nat.succ.inj hl) (fun z hz => hx z (List.mem_cons_of_mem _ hz))
      (fun z hz => hy z (List.mem_cons_of_mem _ hz)) h'
    exact ⟨by rw [String.ext e, e'], hr⟩

/-- … and so can a number rendered with `%d` after them, whatever fixed text follows it: a key format
`seg₁/…/segₙ/%d‹t›` is injective on keys with slash-free segments -/
theorem raw_inj {K : Type} {raw : K → String} {segs : K → List String} {num : K → Int} {t : List Char}
    (hraw : ∀ k, (raw k).toList = slashed (segs k) ((toString (num k)).toList ++ t))
    {a b : K} (h : raw a = raw b) (hl : (segs a).length = (segs b).length)
    (ha : ∀ x ∈ segs a, NoSlash x) (hb : ∀ y ∈ segs b, NoSlash y) : segs a = segs b ∧ num a = num b := by
  have h' := congrArg String.toList h
  rw [hraw, hraw] at h'
  obtain ⟨e, hr⟩ := slashed_inj hl ha hb h'
  have := List.append_cancel_right hr
  rw [decChars_eq_toString, decChars_eq_toString] at this
  exact ⟨e, decChars_inj this⟩

/-- "%x/%s/%d/" -/
theorem fileKeyStr_toList (k : FKey) :
    (Query.fileKeyStr k).toList = slashed [k.1, k.2.1] ((toString k.2.2).toList ++ ['/']) := by
  simp [Query.fileKeyStr, slashed]

/-- "%s/%x/%d/" -/
theorem fileKey2Str_toList (k : FKey) :
    (Query.fileKey2Str k).toList = slashed [k.2.1, k.1] ((toString k.2.2).toList ++ ['/']) := by
  simp [Query.fileKey2Str, slashed]

/-- "%s/%s/%x/%d/" (prover, owner, merkle, start) -/
theorem proofKeyStr_toList (k : PKey) :
    (Query.proofKeyStr k).toList = slashed [k.1, k.2.2.1, k.2.1] ((toString k.2.2.2).toList ++ ['/']) := by
  simp [Query.proofKeyStr, slashed]

/-- the form keys (prover, merkle, owner, start; no trailing separator) -/
theorem formKeyStr_toList (k : PKey) :
    (Query.formKeyStr k).toList = slashed [k.1, k.2.1, k.2.2.1] ((toString k.2.2.2).toList ++ []) := by
  simp [Query.formKeyStr, slashed]

theorem fileKeyStr_inj (a b : FKey) (ha : FKeyOK a) (hb : FKeyOK b) (h : Query.fileKeyStr a = Query.fileKeyStr b) : a = b := by
  obtain ⟨e, e'⟩ := raw_inj fileKeyStr_toList h rfl (by simpa [FKeyOK] using ha) (by simpa [FKeyOK] using hb)
  obtain ⟨m, o, st⟩ := a
  cases e; cases e'; rfl

theorem fileKey2Str_inj (a b : FKey) (ha : FKeyOK a) (hb : FKeyOK b) (h : Query.fileKey2Str a = Query.fileKey2Str b) : a = b := by
  obtain ⟨e, e'⟩ := raw_inj fileKey2Str_toList h rfl (by simpa [FKeyOK, and_comm] using ha) (by simpa [FKeyOK, and_comm] using hb)
  obtain ⟨m, o, st⟩ := a
  cases e; cases e'; rfl

theorem proofKeyStr_inj (a b : PKey) (ha : PKeyOK a) (hb : PKeyOK b) (h : Query.proofKeyStr a = Query.proofKeyStr b) : a = b := by
  obtain ⟨e, e'⟩ := raw_inj proofKeyStr_toList h rfl (by simpa [PKeyOK, FKeyOK, and_comm] using ha) (by simpa [PKeyOK, FKeyOK, and_comm] using hb)
  obtain ⟨p, m, o, st⟩ := a
  cases e; cases e'; rfl

theorem formKeyStr_inj (a b : PKey) (ha : PKeyOK a) (hb : PKeyOK b) (h : Query.formKeyStr a = Query.formKeyStr b) : a = b := by
  obtain ⟨e, e'⟩ := raw_inj formKeyStr_toList h rfl (by simpa [PKeyOK, FKeyOK] using ha) (by simpa [PKeyOK, FKeyOK] using hb)
  obtain ⟨p, m, o, st⟩ := a
  cases e; cases e'; rfl

/-- The string components (merkle, owner, prover) of every key
of the two file indexes, the proof store and the two form stores contain no '/' -/
structure SlashFree (s : State) : Prop where
  files : KeysOK FKeyOK s.files
  files2 : KeysOK FKeyOK s.files2
  proofs : KeysOK PKeyOK s.proofs
  attests : KeysOK PKeyOK s.attests
  reports : KeysOK PKeyOK s.reports

theorem rawInv_of_slashFree {s : State} (hsf : SlashFree s) (h : Inv s) : RawInv s :=
  ⟨rawNodup_of_inj_on fileKeyStr_inj h.idx.wfFiles hsf.files,
   rawNodup_of_inj_on fileKey2Str_inj h.idx.wfFiles2 hsf.files2,
   rawNodup_of_inj_on proofKeyStr_inj h.idx.wfProofs hsf.proofs,
   rawNodup_of_inj_on formKeyStr_inj h.wfAttests hsf.attests,
   rawNodup_of_inj_on formKeyStr_inj h.wfReports hsf.reports⟩

theorem SlashFree.ofSame {s s' : State} (h : SlashFree s) (e : SameIdx s s') : SlashFree s' := by
  exact ⟨e.files ▸ h.files, e.files2 ▸ h.files2, e.proofs ▸ h.proofs, e.attests ▸ h.attests, e.reports ▸ h.reports⟩

theorem slashFree_empty {s : State} (h : EmptyStores s) : SlashFree s := by
  obtain ⟨a, b, c, -, -, -, -, i, j⟩ := h
  exact ⟨a ▸ KeysOK.nil, b ▸ KeysOK.nil, c ▸ KeysOK.nil, i ▸ KeysOK.nil, j ▸ KeysOK.nil⟩

theorem slashFree_removeFile {s : State} (k : FKey) (h : SlashFree s) : SlashFree (removeFile s k) := by
  cases hg : AMap.get s.files k with
  | none => rw [removeFile_none hg]; exact h
  | some f =>
    rw [removeFile_some hg]
    exact { h with files := h.files.erase _, files2 := h.files2.erase _,
                   proofs := foldl_inv _ _ (fun m pk hm => hm.erase pk) f.proofs s.proofs h.proofs }

theorem slashFree_setFile {s : State} (f : File) (hk : FKeyOK f.key) (h : SlashFree s) : SlashFree (setFile s f) :=
  { h with files := h.files.set _ _ hk, files2 := h.files2.set _ _ hk }

theorem slashFree_dropProver {s : State} (f : File) (pk : PKey) (hk : FKeyOK f.key) (h : SlashFree s) :
    SlashFree (dropProver s f pk).1 :=
  { slashFree_setFile { f with proofs := f.proofs.filter (· ≠ pk) } hk h with proofs := h.proofs.erase _ }

theorem slashFree_postFile {s s' : State} {h now : Int} {c m : String} {fs mp ex pt : Int} {note : String}
    {nv : Bool} {jp : Dec} {gid gacc : String}
    (hs : postFile s h now c m fs mp ex pt note nv jp gid gacc = some s') (hc : NoSlash c) (hm : NoSlash m)
    (hsf : SlashFree s) : SlashFree s' := by
  have h1 := slashFree_setFile (newFile s h c m fs mp ex pt note) ⟨hm, hc⟩ (slashFree_removeFile (m, c, h) hsf)
  obtain ⟨_, _, _, rfl⟩ := postFile_writes hs
  exact { h1 with }

theorem slashFree_postProof (s : State) (h : Int) (c m o : String) (st tp : Int) (v : Bool) (nc : Int)
    (hc : NoSlash c) (hi : IndexInv s) (hsf : SlashFree s) : SlashFree (postProof s h c m o st tp v nc).state := by
  rcases postProof_outcome s h c m o st tp v nc with e | ⟨f, p, -, -, hp, -, -, e⟩ | ⟨f, hf, -, -, -, -, e⟩
  · rw [e]; exact hsf
  · rw [e]; exact { hsf with proofs := hsf.proofs.set_bound hp _ }
  · rw [e]
    have hk : FKeyOK f.key := by rw [(hi.ok _ _ hf).1]; exact hsf.files _ _ hf
    exact { slashFree_setFile { f with proofs := f.proofs ++ [(c, f.key)] } hk hsf with proofs := hsf.proofs.set _ _ ⟨hc, hk⟩ }

/-- a form is requested for a prover that has a proof record: the new form key is a key of the proof store -/
theorem keysOK_requestForm {forms forms' : AMap PKey Form} {s : State} {pr m o : String} {st ec : Int} {ch : List String}
    (hp : KeysOK PKeyOK s.proofs) (hg : KeysOK PKeyOK forms) (hs : requestForm forms s pr m o st ec ch = some forms') :
    KeysOK PKeyOK forms' := by
  obtain ⟨f, -, -, hsome, -, -, -, rfl⟩ := requestForm_spec hs
  obtain ⟨q, hq⟩ := Option.isSome_iff_exists.mp hsome
  exact hg.set _ _ (hp _ _ hq)

theorem slashFree_attest (s : State) (h : Int) (c pr m o : String) (st : Int) (hsf : SlashFree s) :
    SlashFree (attest s h c pr m o st) := by
  rcases attest_cases s h c pr m o st with ⟨e, -⟩ | ⟨form, hg, -, -, e⟩ | ⟨form, f, p, -, -, -, -, -, hp, e⟩
  · rw [e]; exact hsf
  · rw [e]; exact { hsf with attests := hsf.attests.set_bound hg _ }
  · rw [e]; exact { hsf with proofs := hsf.proofs.set_bound hp _, attests := hsf.attests.erase _ }

theorem slashFree_report {s s' : State} {c pr m o : String} {st : Int}
    (hs : report s c pr m o st = some s') (hi : IndexInv s) (hsf : SlashFree s) : SlashFree s' := by
  obtain ⟨form, hg, -, ⟨-, e⟩ | ⟨-, f, hf, e⟩⟩ := report_cases hs
  · rw [e]; exact { hsf with reports := hsf.reports.set_bound hg _ }
  · have hk : FKeyOK f.key := by rw [(hi.ok _ _ hf).1]; exact hsf.files _ _ hf
    have h1 : SlashFree { s with reports := AMap.erase s.reports (pr, (m, o, st)) } := { hsf with reports := hsf.reports.erase _ }
    rw [e]; exact removeProver_cases SlashFree (slashFree_dropProver _ _ hk h1) h1

/-- the strings of an op that become components of a *new* stored key are slash-free: the creator
and the merkle (hex) of `MsgPostFile`, the creator of `MsgPostProof` (`ValidateBasic` of every storage
message checks the creator with `AccAddressFromBech32`; the merkle root is rendered with `%x`).  Every
other key a message writes already is a key of some store (a form is requested for a prover with a
proof record; `attest`, `report` rewrite existing forms) -/
def OpSlashFree : Op → Prop
  | .postFile c m .. => NoSlash c ∧ NoSlash m
  | .postProof c .. => NoSlash c
  | _ => True

instance : DecidablePred OpSlashFree := by
  intro op; cases op <;> unfold OpSlashFree <;> infer_instance

theorem slashFree_step (s s' : State) (h now : Int) (op : Op) (hstep : step s h now op = some s')
    (hop : OpSlashFree op) (hi : IndexInv s) (hsf : SlashFree s) : SlashFree s' := by
  cases op with
  | postFile c m fs mp ex pt note nv jp gid gacc => exact slashFree_postFile hstep hop.1 hop.2 hsf
  | deleteFile c m st =>
    cases hstep
    exact slashFree_removeFile _ hsf
  | postProof c m o st tp v nc =>
    cases hstep
    exact slashFree_postProof _ _ _ _ _ _ _ _ _ hop hi hsf
  | requestAttest c m o st ec ch =>
    cases hstep
    split
    · rename_i forms hf
      exact { hsf with attests := keysOK_requestForm hsf.proofs hsf.attests hf }
    · exact hsf
  | attest c p m o st =>
    cases hstep
    exact slashFree_attest _ _ _ _ _ _ _ hsf
  | requestReport c p m o st ec ch =>
    cases hstep
    split
    · rename_i forms hf
      exact { hsf with reports := keysOK_requestForm hsf.proofs hsf.reports hf }
    · exact hsf
  | report c p m o st => exact slashFree_report hstep hi hsf
  | _ => exact hsf.ofSame (sameIdx_step_other rfl hstep)

/-- the reward block writes no new key -/
theorem slashFree_beginBlock {s s' : State} {h now : Int}
    (hs : beginBlock s h now = .ok s') (hi : IndexInv s) (hsf : SlashFree s) : SlashFree s' := by
  refine beginBlock_ind SlashFree (fun f => FKeyOK f.key) (hRF := fun _ f _ => slashFree_removeFile f.key)
    (hDP := fun _ f pk hk hc => ⟨slashFree_dropProver f pk hk hc, hk⟩) (hBurn := fun c a hc => ?_)
    (hBank := fun _ _ hc => { hc with }) (hG := fun _ _ hc => { hc with }) (fun kv hkv => ?_) hs hsf
  · rw [burnContract_writes]; exact { hc with }
  · have hg := AMap.get_of_mem_wf hi.wfFiles hkv
    rw [(hi.ok _ _ hg).1]; exact hsf.files _ _ hg

def HEvSlashFree : HEv → Prop
  | .ev (.msg _ _ op) => OpSlashFree op
  | _ => True

instance : DecidablePred HEvSlashFree := by
  intro e
  cases e with
  | ev e => cases e <;> unfold HEvSlashFree <;> infer_instance
  | setParams p => unfold HEvSlashFree; infer_instance

theorem both_applyH (s : State) (e : HEv) (he : HEvSlashFree e) (h : Inv s ∧ SlashFree s) :
    Inv (applyH s e) ∧ SlashFree (applyH s e) := by
  refine ⟨inv_applyH s e h.1, ?_⟩
  obtain ⟨hinv, hsf⟩ := h
  cases e with
  | ev e =>
    refine applyEv_inv SlashFree e hsf (fun ht now op s' e hs => ?_) (fun _ _ _ _ hs => slashFree_beginBlock hs hinv.idx hsf)
    subst e
    exact slashFree_step s s' ht now op hs he hinv.idx hsf
  | setParams p => exact { hsf with }

theorem both_runH (evs : List HEv) (s : State) (hev : ∀ e ∈ evs, HEvSlashFree e) (h : Inv s ∧ SlashFree s) :
    Inv (runH s evs) ∧ SlashFree (runH s evs) :=
  foldl_inv_mem (fun s => Inv s ∧ SlashFree s) applyH evs (fun s e he hs => both_applyH s e (hev e he) hs) s h

end Canine.Genesis.SI
