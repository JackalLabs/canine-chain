/-
Association-list maps used for every store in the models.

`AMap K V` is a plain `List (K × V)`.  `set` replaces in place (or appends), `erase` removes every
binding of the key, so the key/value lemmas below need no well-formedness hypothesis; the lemmas
about sums need `Nodup` keys, which is an explicit, separately proved invariant (`WF`).
Core Lean only (the driver executable links this file).
-/
namespace Canine

/-- a guard inside a handler: continue iff the condition holds, otherwise the handler fails -/
def req (c : Prop) [Decidable c] : Option Unit := if c then some () else none

@[simp] theorem req_eq_some (c : Prop) [Decidable c] (u : Unit) : req c = some u ↔ c := by
  unfold req; split <;> simp [*]

abbrev AMap (K V : Type) := List (K × V)

namespace AMap
variable {K V : Type} [DecidableEq K]

def get : AMap K V → K → Option V
  | [], _ => none
  | (k', v) :: t, k => if k' = k then some v else get t k

def contains (m : AMap K V) (k : K) : Bool := (get m k).isSome

def set : AMap K V → K → V → AMap K V
  | [], k, v => [(k, v)]
  | (k', v') :: t, k, v => if k' = k then (k, v) :: t else (k', v') :: set t k v

def erase : AMap K V → K → AMap K V
  | [], _ => []
  | (k', v') :: t, k => if k' = k then erase t k else (k', v') :: erase t k

def keys (m : AMap K V) : List K := m.map (·.1)
def vals (m : AMap K V) : List V := m.map (·.2)

def WF (m : AMap K V) : Prop := (keys m).Nodup

@[simp] theorem get_nil (k : K) : get ([] : AMap K V) k = none := rfl

@[simp] theorem get_set_self (m : AMap K V) (k : K) (v : V) : get (set m k v) k = some v := by
  induction m with
  | nil => simp [set, get]
  | cons p t ih =>
    obtain ⟨k', v'⟩ := p
    by_cases h : k' = k <;> simp [set, get, h, ih]

/-! Reading after a write at `k0`.  The key looked up is `k`; everything but the hypothesis is implicit.
A lemma named `_ne` takes `k ≠ k0`, as `forall_set_of_ne` does; its twin `_other` takes `k0 ≠ k`, which is
what the failed test of `get_set` leaves behind.  Likewise `get_set` tests `k0 = k` and `get_set'` tests `k = k0`. -/

theorem get_set_other {m : AMap K V} {k0 k : K} {v : V} (h : k0 ≠ k) :
    get (set m k0 v) k = get m k := by
  induction m with
  | nil => simp [set, get, h]
  | cons p t ih =>
    obtain ⟨k', v'⟩ := p
    by_cases h1 : k' = k0
    · subst h1; simp [set, get, h]
    · by_cases h2 : k' = k
      · subst h2; simp [set, get, h1]
      · simp [set, get, h1, h2, ih]

theorem get_set_ne {m : AMap K V} {k0 k : K} {v : V} (h : k ≠ k0) : get (set m k0 v) k = get m k :=
  get_set_other h.symm

theorem get_set (m : AMap K V) (k0 k : K) (v : V) :
    get (set m k0 v) k = if k0 = k then some v else get m k := by
  by_cases h : k0 = k
  · subst h; simp
  · simp [h, get_set_other h]

theorem get_set' (m : AMap K V) (k0 k : K) (v : V) :
    get (set m k0 v) k = if k = k0 then some v else get m k := by
  rw [get_set]; exact ite_congr (propext eq_comm) (fun _ => rfl) (fun _ => rfl)

@[simp] theorem get_erase_self (m : AMap K V) (k : K) : get (erase m k) k = none := by
  induction m with
  | nil => rfl
  | cons p t ih =>
    obtain ⟨k', v'⟩ := p
    by_cases h : k' = k <;> simp [erase, get, h, ih]

theorem get_erase_other {m : AMap K V} {k0 k : K} (h : k0 ≠ k) :
    get (erase m k0) k = get m k := by
  induction m with
  | nil => rfl
  | cons p t ih =>
    obtain ⟨k', v'⟩ := p
    by_cases h1 : k' = k0
    · subst h1; simp [erase, get, h, ih]
    · by_cases h2 : k' = k
      · subst h2; simp [erase, get, h1]
      · simp [erase, get, h1, h2, ih]

theorem get_erase_ne {m : AMap K V} {k0 k : K} (h : k ≠ k0) : get (erase m k0) k = get m k :=
  get_erase_other h.symm

theorem get_erase (m : AMap K V) (k0 k : K) :
    get (erase m k0) k = if k0 = k then none else get m k := by
  by_cases h : k0 = k
  · subst h; simp
  · simp [h, get_erase_other h]

theorem get_erase' (m : AMap K V) (k0 k : K) :
    get (erase m k0) k = if k = k0 then none else get m k := by
  rw [get_erase]; exact ite_congr (propext eq_comm) (fun _ => rfl) (fun _ => rfl)

theorem forall_set_of_ne {P : K → V → Prop} {m : AMap K V} {k0 : K} {v0 : V}
    (hm : ∀ k v, k ≠ k0 → get m k = some v → P k v) (h0 : P k0 v0) :
    ∀ k v, get (set m k0 v0) k = some v → P k v := by
  intro k v h
  rw [get_set'] at h
  split at h
  · rename_i e; cases h; exact e ▸ h0
  · rename_i e; exact hm k v e h

theorem forall_erase_of_ne {P : K → V → Prop} {m : AMap K V} {k0 : K}
    (hm : ∀ k v, k ≠ k0 → get m k = some v → P k v) : ∀ k v, get (erase m k0) k = some v → P k v := by
  intro k v h
  rw [get_erase'] at h
  split at h
  · cases h
  · rename_i e; exact hm k v e h

theorem forall_set {m : AMap K V} {P : K → V → Prop} (h : ∀ k v, get m k = some v → P k v)
    {k0 : K} {v0 : V} (h0 : P k0 v0) : ∀ k v, get (set m k0 v0) k = some v → P k v :=
  forall_set_of_ne (fun k v _ => h k v) h0

theorem forall_erase {m : AMap K V} {P : K → V → Prop} (h : ∀ k v, get m k = some v → P k v)
    (k0 : K) : ∀ k v, get (erase m k0) k = some v → P k v :=
  forall_erase_of_ne fun k v _ => h k v

theorem get_set_some {m : AMap K V} {k k2 : K} {v v2 : V} (h : get (set m k v) k2 = some v2) :
    (k2 = k ∧ v2 = v) ∨ get m k2 = some v2 := by
  rw [get_set] at h
  split at h
  · rename_i e; cases h; exact Or.inl ⟨e.symm, rfl⟩
  · exact Or.inr h

theorem get_set_isSome {m : AMap K V} {k k2 : K} {v : V} (h : (get m k2).isSome = true) :
    (get (set m k v) k2).isSome = true := by
  rw [get_set]; split
  · rfl
  · exact h

theorem get_erase_some {m : AMap K V} {k k2 : K} {v : V} (h : get (erase m k) k2 = some v) :
    get m k2 = some v := by
  rw [get_erase] at h
  split at h
  · cases h
  · exact h

theorem get_singleton {k0 k : K} {v0 v : V} (h : get [(k0, v0)] k = some v) : k = k0 ∧ v = v0 := by
  simp only [get] at h
  split at h
  · rename_i e; cases h; exact ⟨e.symm, rfl⟩
  · cases h

theorem contains_iff {m : AMap K V} {k : K} : contains m k = true ↔ (get m k).isSome = true := Iff.rfl

theorem contains_eq_false {m : AMap K V} {k : K} : contains m k = false ↔ get m k = none := by
  unfold contains; cases get m k <;> simp

theorem mem_of_get {m : AMap K V} {k : K} {v : V} (h : get m k = some v) : (k, v) ∈ m := by
  induction m with
  | nil => simp [get] at h
  | cons p t ih =>
    obtain ⟨k', v'⟩ := p
    by_cases h1 : k' = k
    · subst h1; simp [get] at h; simp [h]
    · simp [get, h1] at h; exact List.mem_cons_of_mem _ (ih h)

theorem mem_keys_of_get {m : AMap K V} {k : K} {v : V} (h : get m k = some v) : k ∈ keys m :=
  List.mem_map.mpr ⟨(k, v), mem_of_get h, rfl⟩

theorem get_none_of_not_mem_keys {m : AMap K V} {k : K} (h : k ∉ keys m) : get m k = none := by
  cases hg : get m k with
  | none => rfl
  | some v => exact absurd (mem_keys_of_get hg) h

theorem get_some_of_mem_keys {m : AMap K V} {k : K} (h : k ∈ keys m) : ∃ v, get m k = some v := by
  induction m with
  | nil => cases h
  | cons p t ih =>
    obtain ⟨k', v'⟩ := p
    by_cases h1 : k' = k
    · exact ⟨v', by rw [get, if_pos h1]⟩
    · rw [get, if_neg h1]
      exact ih ((List.mem_cons.mp h).resolve_left fun e => h1 e.symm)

theorem get_of_mem_wf {m : AMap K V} {k : K} {v : V} (hwf : WF m) (h : (k, v) ∈ m) :
    get m k = some v := by
  induction m with
  | nil => simp at h
  | cons p t ih =>
    obtain ⟨k', v'⟩ := p
    simp [WF, keys] at hwf
    rcases List.mem_cons.mp h with h | h
    · cases h; simp [get]
    · have hk : k' ≠ k := by
        intro e; subst e
        exact hwf.1 v h
      simp [get, hk]
      exact ih (by simpa [WF, keys] using hwf.2) h

theorem erase_eq_filter (m : AMap K V) (k : K) : erase m k = m.filter (fun p => p.1 ≠ k) := by
  induction m with
  | nil => rfl
  | cons p t ih =>
    by_cases h : p.1 = k
    · rw [erase, if_pos h, ih, List.filter_cons_of_neg (by simpa using h)]
    · rw [erase, if_neg h, ih, List.filter_cons_of_pos (by simpa using h)]

theorem wf_erase {m : AMap K V} (k : K) (h : WF m) : WF (erase m k) := by
  rw [erase_eq_filter]
  exact List.Nodup.sublist (List.filter_sublist.map _) h

theorem keys_set (m : AMap K V) (k : K) (v : V) :
    keys (set m k v) = if k ∈ keys m then keys m else keys m ++ [k] := by
  induction m with
  | nil => simp [set, keys]
  | cons p t ih =>
    obtain ⟨k', v'⟩ := p
    by_cases h1 : k' = k
    · subst h1; simp [set, keys]
    · have h1' : ¬ k = k' := fun e => h1 e.symm
      simp only [set, h1, if_false, keys, List.map_cons, List.mem_cons, h1', false_or] at ih ⊢
      rw [ih]; split <;> rename_i hh <;> simp [hh]

theorem wf_set {m : AMap K V} (k : K) (v : V) (h : WF m) : WF (set m k v) := by
  unfold WF at *
  rw [keys_set]
  split
  · exact h
  · rename_i hk
    rw [List.nodup_append]
    refine ⟨h, by simp, ?_⟩
    intro a ha b hb
    simp at hb; subst hb
    intro e; subst e; exact hk ha

omit [DecidableEq K] in
theorem wf_nil : WF ([] : AMap K V) := List.nodup_nil

theorem set_set (m : AMap K V) (k : K) (v v' : V) : set (set m k v) k v' = set m k v' := by
  induction m with
  | nil => simp [set]
  | cons p t ih =>
    obtain ⟨k', w⟩ := p
    by_cases h : k' = k <;> simp [set, h, ih]

theorem mem_iff_get_of_wf {m : AMap K V} (hwf : WF m) (k : K) (v : V) :
    (k, v) ∈ m ↔ get m k = some v :=
  ⟨get_of_mem_wf hwf, mem_of_get⟩

theorem wf_unique {m : AMap K V} (hwf : WF m) {p q : K × V} (hp : p ∈ m) (hq : q ∈ m)
    (hk : p.1 = q.1) : p = q := by
  obtain ⟨k, v⟩ := p
  obtain ⟨k', v'⟩ := q
  simp only at hk; subst hk
  have h2 := get_of_mem_wf hwf hq
  rw [get_of_mem_wf hwf hp] at h2; cases h2; rfl

/-- no `WF` needed (`erase` removes every binding of the key), unlike `mem_set_iff` -/
theorem mem_erase_iff {m : AMap K V} {k : K} {x : K × V} : x ∈ erase m k ↔ x ∈ m ∧ x.1 ≠ k := by
  rw [erase_eq_filter, List.mem_filter, decide_eq_true_iff]

theorem mem_erase {m : AMap K V} {k : K} {x : K × V} (h : x ∈ erase m k) : x ∈ m :=
  (mem_erase_iff.mp h).1

theorem mem_set {m : AMap K V} {k : K} {v : V} {x : K × V} (h : x ∈ set m k v) :
    x ∈ m ∨ x = (k, v) := by
  induction m with
  | nil => simp [set] at h; exact Or.inr h
  | cons p t ih =>
    obtain ⟨k', v'⟩ := p
    by_cases h1 : k' = k
    · simp only [set, h1, if_true, List.mem_cons] at h
      exact h.elim Or.inr (fun h => Or.inl (List.mem_cons_of_mem _ h))
    · simp only [set, h1, if_false, List.mem_cons] at h
      rcases h with h | h
      · exact Or.inl (by simp [h])
      · exact (ih h).elim (fun h => Or.inl (List.mem_cons_of_mem _ h)) Or.inr

theorem mem_set_iff {m : AMap K V} (hwf : WF m) {k : K} {v : V} {x : K × V} :
    x ∈ set m k v ↔ x = (k, v) ∨ (x ∈ m ∧ x.1 ≠ k) := by
  obtain ⟨k2, v2⟩ := x
  rw [mem_iff_get_of_wf (wf_set k v hwf), get_set, mem_iff_get_of_wf hwf]
  by_cases e : k = k2
  · subst e; simp [eq_comm]
  · have e' : ¬ k2 = k := fun x => e x.symm
    simp [e, e']

theorem mem_keys_set {m : AMap K V} {k x : K} {v : V} (h : x ∈ keys (set m k v)) :
    x ∈ keys m ∨ x = k := by
  rw [keys_set] at h
  split at h
  · exact Or.inl h
  · simpa using h

/-! Stores that list the same bindings in another order. -/

omit [DecidableEq K] in
theorem wf_of_perm {a b : AMap K V} (p : a.Perm b) (h : WF a) : WF b :=
  have h' : (a.map (·.1)).Nodup := h
  show (b.map (·.1)).Nodup from (p.map (·.1)).nodup h'

theorem get_eq_of_perm {a b : AMap K V} (p : a.Perm b) (h : WF a) (k : K) :
    get a k = get b k :=
  Option.ext fun v => by
    rw [← mem_iff_get_of_wf h, ← mem_iff_get_of_wf (wf_of_perm p h)]
    exact p.mem_iff

theorem perm_of_get_eq {a b : AMap K V} (ha : WF a) (hb : WF b)
    (h : ∀ k, get a k = get b k) : a.Perm b := by
  have nd : ∀ {m : AMap K V}, WF m → m.Nodup :=
    fun h => List.Pairwise.of_map (·.1) (fun _ _ hne e => hne (congrArg (·.1) e)) h
  rw [List.perm_ext_iff_of_nodup (nd ha) (nd hb)]
  intro ⟨k, v⟩
  rw [mem_iff_get_of_wf ha, mem_iff_get_of_wf hb, h]

theorem set_fresh : ∀ (m : AMap K V) (k : K) (v : V), k ∉ keys m →
    set m k v = m ++ [(k, v)]
  | [], _, _, _ => rfl
  | (k', v') :: t, k, v, h => by
    have hne : ¬ k' = k := fun e => h (e ▸ List.mem_cons_self)
    show (if k' = k then (k, v) :: t else (k', v') :: set t k v) = (k', v') :: (t ++ [(k, v)])
    rw [if_neg hne, set_fresh t k v (fun hm => h (List.mem_cons_of_mem _ hm))]

theorem get_foldl_erase (l : List K) (m : AMap K V) (k : K) :
    get (l.foldl (fun m x => erase m x) m) k = if k ∈ l then none else get m k := by
  induction l generalizing m with
  | nil => simp
  | cons a t ih =>
    simp only [List.foldl_cons, ih, List.mem_cons, get_erase]
    by_cases h1 : k ∈ t
    · simp [h1]
    · by_cases h2 : a = k
      · subst h2; simp [h1]
      · have h2' : ¬ k = a := fun e => h2 e.symm
        simp [h1, h2, h2']

theorem wf_foldl_erase (l : List K) (m : AMap K V) (h : WF m) :
    WF (l.foldl (fun m x => erase m x) m) := by
  induction l generalizing m with
  | nil => exact h
  | cons a t ih => exact ih _ (wf_erase a h)

end AMap

/-- Sum of an integer-valued projection over the bindings of a map. -/
def AMap.sumBy {K V : Type} (f : V → Int) : AMap K V → Int
  | [] => 0
  | (_, v) :: t => f v + AMap.sumBy f t

namespace AMap
variable {K V : Type} [DecidableEq K]

omit [DecidableEq K] in
theorem sumBy_nonneg (f : V → Int) {m : AMap K V} (h : ∀ p ∈ m, 0 ≤ f p.2) : 0 ≤ sumBy f m := by
  induction m with
  | nil => simp [sumBy]
  | cons p t ih =>
    obtain ⟨k', v'⟩ := p
    have h1 : 0 ≤ f v' := h (k', v') (by simp)
    have h2 := ih (fun p hp => h p (List.mem_cons_of_mem _ hp))
    simp only [sumBy]; omega

omit [DecidableEq K] in
theorem sumBy_eq_zero (f : V → Int) {m : AMap K V} (h : ∀ p ∈ m, f p.2 = 0) : sumBy f m = 0 := by
  induction m with
  | nil => simp [sumBy]
  | cons p t ih =>
    obtain ⟨k', v'⟩ := p
    have h1 : f v' = 0 := h (k', v') (by simp)
    have h2 := ih (fun p hp => h p (List.mem_cons_of_mem _ hp))
    simp only [sumBy]; omega

theorem sumBy_erase (f : V → Int) {m : AMap K V} (k : K) (h : WF m) :
    sumBy f (erase m k) = sumBy f m - ((get m k).map f).getD 0 := by
  induction m with
  | nil => simp [erase, sumBy, get]
  | cons p t ih =>
    obtain ⟨k', v'⟩ := p
    simp only [WF, keys, List.map_cons, List.nodup_cons] at h
    by_cases h1 : k' = k
    · subst h1
      have : get t k' = none := get_none_of_not_mem_keys h.1
      simp only [erase, if_true, get, sumBy, Option.map_some, Option.getD_some]
      rw [ih h.2, this]; simp; omega
    · simp only [erase, h1, if_false, get, sumBy]
      rw [ih h.2]; omega

theorem sumBy_set (f : V → Int) {m : AMap K V} (k : K) (v : V) (h : WF m) :
    sumBy f (set m k v) = sumBy f m - ((get m k).map f).getD 0 + f v := by
  induction m with
  | nil => simp [set, sumBy, get]
  | cons p t ih =>
    obtain ⟨k', v'⟩ := p
    simp only [WF, keys, List.map_cons, List.nodup_cons] at h
    by_cases h1 : k' = k
    · subst h1
      simp only [set, if_true, get, sumBy, Option.map_some, Option.getD_some]; omega
    · simp only [set, h1, if_false, get, sumBy]
      rw [ih h.2]; omega

end AMap
end Canine
