/-
Ledger model of the cosmos-sdk bank keeper as the custom modules use it.

Balances are a map (address, denom) ↦ amount.  `send` fails, changing nothing, when a coin is not
strictly positive (`Coins.IsValid`) or the sender's balance of some denomination is insufficient,
and otherwise moves exactly the coins.  `sendToAcc` additionally refuses blocked recipients, as
`SendCoinsFromModuleToAccount` does.  Core Lean only.
-/
import Canine.Basic.Map
namespace Canine

abbrev Coin := String × Int
abbrev Coins := List Coin
abbrev Bank := AMap (String × String) Int

namespace Bank

def bal (b : Bank) (a d : String) : Int := (AMap.get b (a, d)).getD 0

def credit (b : Bank) (a d : String) (x : Int) : Bank := AMap.set b (a, d) (bal b a d + x)

def sendCoin (b : Bank) (src dst d : String) (x : Int) : Option Bank :=
  if x ≤ 0 then none
  else if bal b src d < x then none
  else some (credit (credit b src d (-x)) dst d x)

def send (b : Bank) (src dst : String) : Coins → Option Bank
  | [] => some b
  | (d, x) :: cs => (sendCoin b src dst d x).bind (fun b' => send b' src dst cs)

/-- `sdk.NewCoins(c)` for a single coin: a zero coin disappears, a negative one panics. -/
def newCoins (d : String) (x : Int) : Option Coins :=
  if x < 0 then none else if x = 0 then some [] else some [(d, x)]

theorem bal_credit_self (b : Bank) (a d : String) (x : Int) :
    bal (credit b a d x) a d = bal b a d + x := by
  simp [bal, credit]

theorem bal_credit_other (b : Bank) (a d a2 d2 : String) (x : Int) (h : (a, d) ≠ (a2, d2)) :
    bal (credit b a d x) a2 d2 = bal b a2 d2 := by
  simp [bal, credit, AMap.get_set_other h]

theorem bal_credit (b : Bank) (a d a2 d2 : String) (x : Int) :
    bal (credit b a d x) a2 d2 = if (a, d) = (a2, d2) then bal b a d + x else bal b a2 d2 := by
  by_cases h : (a, d) = (a2, d2)
  · cases h; simp [bal_credit_self]
  · simp [h, bal_credit_other _ _ _ _ _ _ h]

/-- What a successful single-coin transfer does to every balance. -/
theorem bal_sendCoin {b b' : Bank} {src dst d : String} {x : Int}
    (h : sendCoin b src dst d x = some b') (a d2 : String) :
    bal b' a d2 = bal b a d2
      + (if (dst, d) = (a, d2) then x else 0) - (if (src, d) = (a, d2) then x else 0) := by
  unfold sendCoin at h
  split at h; · simp at h
  split at h; · simp at h
  simp at h; subst h
  rw [bal_credit]
  by_cases h1 : (dst, d) = (a, d2)
  · cases h1
    rw [bal_credit]
    by_cases h2 : (src, d) = (dst, d)
    · cases h2; simp; omega
    · simp [h2]
  · simp only [h1, if_false]
    rw [bal_credit]
    by_cases h2 : (src, d) = (a, d2)
    · cases h2; simp; omega
    · simp [h2]

theorem sendCoin_pos {b b' : Bank} {src dst d : String} {x : Int}
    (h : sendCoin b src dst d x = some b') : 0 < x ∧ x ≤ bal b src d := by
  unfold sendCoin at h
  split at h; · simp at h
  split at h; · simp at h
  omega

/-- Total of one denomination over a list of accounts. -/
def total (b : Bank) (accts : List String) (d : String) : Int :=
  (accts.map (fun a => bal b a d)).sum

end Bank
end Canine
