-- Root of the `Canine` library: the executable models.  Property modules (Canine/Props/Cxx.lean)
-- are separate build targets (`lake build Canine.Props.Cxx`): some of them, and of the lemma
-- modules under Canine/Proofs, declare relations of the same name (`SameRest`, `Ev`, `Event`,
-- example states) and cannot be imported together.
import Canine.Rns.Model
import Canine.Notif.Model
import Canine.Mint.Model
import Canine.Filetree.Model
import Canine.Filetree.Path
import Canine.Storage.Model
import Canine.Storage.Merkle
import Canine.Storage.Wasm
import Canine.Oracle.Model
import Canine.Genesis.Model
import Canine.Genesis.Modules
import Canine.Crypto.Sha256
import Canine.Crypto.Sha3
